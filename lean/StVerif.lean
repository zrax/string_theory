import StVerif.Base
import StVerif.Bits
import StVerif.Lemmas.ListFacts
import StVerif.Model.Codec
import StVerif.Spec.Rfc4648
import StVerif.Lemmas.Codec
import StVerif.Lemmas.CodecDecode
import StVerif.Props.C14
import StVerif.Props.C15
import StVerif.Model.Utf
import StVerif.Spec.Unicode
import StVerif.Lemmas.Utf
import StVerif.Lemmas.UtfWalk
import StVerif.Lemmas.UtfSeg
import StVerif.Lemmas.UtfRef
import StVerif.Lemmas.UtfStd
import StVerif.Props.C01
import StVerif.Lemmas.UtfString
import StVerif.Props.C02
import StVerif.Props.C03
import StVerif.Model.Pool
import StVerif.Spec.Store
import StVerif.Model.Search
import StVerif.Model.StrPool
import StVerif.Spec.Value
import StVerif.Lemmas.PoolDefs
import StVerif.Lemmas.PoolBasic
import StVerif.Lemmas.PoolInv
import StVerif.Lemmas.PoolOps
import StVerif.Lemmas.PoolStep
import StVerif.Props.C05
import StVerif.Props.C19
import StVerif.Spec.Slice
import StVerif.Model.Slice
import StVerif.Spec.Search
import StVerif.Lemmas.Search
import StVerif.Model.Compare
import StVerif.Model.Find
import StVerif.Lemmas.Slice
import StVerif.Lemmas.SearchSpec
import StVerif.Lemmas.Compare
import StVerif.Lemmas.Find
import StVerif.Props.C07
import StVerif.Lemmas.SliceSep
import StVerif.Props.C08
import StVerif.Spec.Split
import StVerif.Model.Split
import StVerif.Lemmas.Split
import StVerif.Props.C09
import StVerif.Spec.Compare
import StVerif.Lemmas.CompareSpec
import StVerif.Props.C06
import StVerif.Spec.Digits
import StVerif.Model.Num
import StVerif.Lemmas.Digits
import StVerif.Lemmas.MachineInt
import StVerif.Lemmas.Num
import StVerif.Lemmas.NumParse
import StVerif.Props.C12
import StVerif.Spec.FloatText
import StVerif.Model.Float
import StVerif.Props.C13
import StVerif.Lemmas.Utf8Split
import StVerif.Lemmas.StrPool
import StVerif.Lemmas.StrPoolOps
import StVerif.Lemmas.StrPoolReach
import StVerif.Props.C04
import StVerif.Props.C18
import StVerif.Lemmas.Outcome
import StVerif.FmtBase
import StVerif.Model.FmtEvents
import StVerif.Model.FmtParse
import StVerif.Model.FmtRender
import StVerif.Lemmas.FmtParse
import StVerif.Lemmas.FmtRender
import StVerif.Props.C10
import StVerif.Spec.RenderDigits
import StVerif.Spec.Render
import StVerif.Lemmas.FmtSpec
import StVerif.Lemmas.FmtRun
import StVerif.Props.C11
import StVerif.Model.Stream
import StVerif.Spec.ByteLog
import StVerif.Lemmas.StreamDefs
import StVerif.Lemmas.Stream
import StVerif.Lemmas.StreamOps
import StVerif.Props.C16
import StVerif.Generated.Statics
import StVerif.Model.Sched
import StVerif.Lemmas.SchedEffect
import StVerif.Lemmas.Sched
import StVerif.Props.C20
import StVerif.Model.Sinks
import StVerif.Lemmas.Sinks
import StVerif.Lemmas.SinksChunk
import StVerif.Props.C17
import StVerif.Cxx.Machine
import StVerif.Generated.Kernels
import StVerif.Lemmas.KernelBridge
import StVerif.Lemmas.KernelLoops
import StVerif.Lemmas.KernelValidate
import StVerif.Lemmas.KernelCleanup
import StVerif.Lemmas.KernelCodec
import StVerif.Lemmas.KernelCompare
import StVerif.Lemmas.KernelFormat
import StVerif.Lemmas.KernelUintFormat
import StVerif.Props.C01Tie
import StVerif.Props.C02Tie
import StVerif.Props.C03Tie
import StVerif.Props.C06Tie
import StVerif.Props.C07Tie
import StVerif.Props.C09Tie
import StVerif.Props.C10Tie
import StVerif.Props.C11Tie
import StVerif.Props.C12Tie
import StVerif.Props.C14Tie
import StVerif.Props.C15Tie
