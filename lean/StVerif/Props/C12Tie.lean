/- Tie of property C12 to the source: the theorems `translated function = model` (tools/gen_kernels.py regenerates
   StVerif/Generated/Kernels.lean from the C++ on every run).  Kept apart from Props/C12.lean so that a bridge that stops
   checking leaves the property's other theorems built and audited (DESIGN.md section 14). -/
import StVerif.Props.C12
import StVerif.Lemmas.KernelUintFormat

namespace StVerif.Props.C12

/-- the translated `ST::uint_formatter<unsigned long>::format` and `<unsigned int>::format` (include/st_format_numeric.h;
    the digit generator writing backwards into its member buffer; a zero divisor and a write before the start of the
    buffer are faults of the translation) are the model's `uintFormat` for every radix
    from 2 that an `int` can hold and every value of the type: same characters, no division by zero, never a write before
    the start of the 65- / 33-byte buffer, at most 64 / 32 iterations -/
theorem translated_digit_generator_is_model (radix : Nat) (upper : Bool) (hr : 2 ≤ radix) (hr' : radix < 2 ^ 31) :
    (∀ value, value < 2 ^ 64 → ∀ fuel, 65 ≤ fuel → ∃ f, StVerif.Num.uintFormat 64 value radix upper = .ok f ∧
      StVerif.Generated.Kernels.uint_formatter_unsigned_long_format [] fuel value (radix : Int) (if upper then 1 else 0) = .ok f.chars ∧
      f.start + f.chars.length = 64) ∧
    (∀ value, value < 2 ^ 32 → ∀ fuel, 33 ≤ fuel → ∃ f, StVerif.Num.uintFormat 32 value radix upper = .ok f ∧
      StVerif.Generated.Kernels.uint_formatter_unsigned_int_format [] fuel value (radix : Int) (if upper then 1 else 0) = .ok f.chars ∧
      f.start + f.chars.length = 32) :=
  ⟨fun value hv fuel hf => KernelBridge.uint_format_64_eq value radix upper hr hr' hv fuel hf,
   fun value hv fuel hf => KernelBridge.uint_format_32_eq value radix upper hr hr' hv fuel hf⟩

end StVerif.Props.C12
