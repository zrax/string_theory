/- Tie of property C02 to the source: the theorems `translated function = model` (tools/gen_kernels.py regenerates
   StVerif/Generated/Kernels.lean from the C++ on every run).  Kept apart from Props/C02.lean so that a bridge that stops
   checking leaves the property's other theorems built and audited (DESIGN.md section 14). -/
import StVerif.Props.C02
import StVerif.Lemmas.KernelBridge
import StVerif.Lemmas.KernelLoops
import StVerif.Lemmas.KernelValidate
import StVerif.Lemmas.KernelCleanup

namespace StVerif.Props.C02
open StVerif.Utf StVerif.Generated StVerif.KernelBridge

/-- the translated decoders the validation modes are built on are the model's decoders (malformed units included: an
    error is the flagged value `error_char` builds), and `char_error` reads the flag back -/
theorem kernels_are_model (mem : List Nat) (ch : Nat) (hch : ch < 2 ^ 31) :
    KernelBridge.stepLoop Kernels.extract_utf8 mem (mem.length + 1) 0 = .ok (decodeUtf8 mem) ∧
    KernelBridge.stepLoop Kernels.extract_utf16 mem (mem.length + 1) 0 = .ok (decodeUtf16 mem) ∧
    Kernels.char_error ch = .ok ((charError ch : Nat) : Int) :=
  ⟨KernelBridge.utf8_loop_eq mem, KernelBridge.utf16_loop_eq mem, KernelBridge.char_error_eq ch hch⟩

/-- the translated filling passes of include/st_utf_conv_priv.h are the model's `fill` over the model's decoder, in every
    mode (UTF-16 sources: units below 2^16), and the translated `validate_utf8` is the model's validator -/
theorem conversion_loops_are_model (mem : List Nat) (m : Mode) (subst : Bool) (fuel : Nat) (hf : mem.length < fuel) :
    Kernels.utf16_convert_from_utf8 mem fuel 0 mem.length (modeCode m) = fillResult (fill (stepCh .utf8 .utf16 m subst) (decode .utf8 mem)) ∧
    Kernels.utf32_convert_from_utf8 mem fuel 0 mem.length (modeCode m) = fillResult (fill (stepCh .utf8 .utf32 m subst) (decode .utf8 mem)) ∧
    Kernels.utf8_convert_from_utf32 mem fuel 0 mem.length (modeCode m) = fillResult (fill (stepCh .utf32 .utf8 m subst) (decode .utf32 mem)) ∧
    Kernels.utf16_convert_from_utf32 mem fuel 0 mem.length (modeCode m) = fillResult (fill (stepCh .utf32 .utf16 m subst) (decode .utf32 mem)) ∧
    ((∀ u ∈ mem, u < 65536) →
      Kernels.utf8_convert_from_utf16 mem fuel 0 mem.length (modeCode m) = fillResult (fill (stepCh .utf16 .utf8 m subst) (decode .utf16 mem)) ∧
      Kernels.utf32_convert_from_utf16 mem fuel 0 mem.length (modeCode m) = fillResult (fill (stepCh .utf16 .utf32 m subst) (decode .utf16 mem))) ∧
    Kernels.validate_utf8 mem fuel 0 mem.length = .ok ((validateUtf8 mem : Nat) : Int) :=
  ⟨utf16_convert_from_utf8_eq mem m subst fuel hf, utf32_convert_from_utf8_eq mem m subst fuel hf,
   utf8_convert_from_utf32_eq mem m subst fuel hf, utf16_convert_from_utf32_eq mem m subst fuel hf,
   fun hu => ⟨utf8_convert_from_utf16_eq mem m subst hu fuel hf, utf32_convert_from_utf16_eq mem m subst hu fuel hf⟩,
   validate_utf8_eq mem fuel hf⟩

/-- the translated `cleanup_utf8` (the repairer behind `substitute_invalid` for `ST::string`): both passes complete without
    a load outside the source, the sizing pass (null output) returns exactly the number of units the filling pass stores,
    and what is stored is the model's `cleanupUtf8` - for every source of which three times the length fits `size_t` -/
theorem translated_repairer_is_model (mem : List Nat) (fuel : Nat) (hf : mem.length < fuel) (hl : 3 * mem.length < 2 ^ 64) :
    Kernels.cleanup_utf8 mem fuel false 0 mem.length = .ok ((cleanupUtf8 mem).length, cleanupUtf8 mem) ∧
    Kernels.cleanup_utf8 mem fuel true 0 mem.length = .ok ((cleanupUtf8 mem).length, []) :=
  cleanup_utf8_eq mem fuel hf hl

end StVerif.Props.C02
