/- Tie of property C01 to the source: the theorems `translated function = model` (tools/gen_kernels.py regenerates
   StVerif/Generated/Kernels.lean from the C++ on every run).  Kept apart from Props/C01.lean so that a bridge that stops
   checking leaves the property's other theorems built and audited (DESIGN.md section 14). -/
import StVerif.Props.C01
import StVerif.Lemmas.KernelBridge
import StVerif.Lemmas.KernelLoops
import StVerif.Lemmas.KernelValidate

namespace StVerif.Props.C01
open StVerif.Utf StVerif.Generated StVerif.KernelBridge

/-- the translated `write_utf8 / write_utf16 / utf8_measure / utf16_measure` (include/st_utf_conv_priv.h) are the model's
    functions, and the loop `stepLoop` (Lemmas/KernelBridge.lean) over the translated decoding steps
    `extract_utf8 / extract_utf16` returns the model's decoders, for every code point and every source -/
theorem kernels_are_model (ch : Nat) (mem : List Nat) :
    Kernels.write_utf8 ch = .ok (match writeUtf8 ch with | some us => ((0 : Int), us) | none => ((4 : Int), [])) ∧
    Kernels.write_utf16 ch = .ok (match writeUtf16 ch with | some us => ((0 : Int), us) | none => ((4 : Int), [])) ∧
    Kernels.utf8_measure ch = .ok (utf8Measure ch) ∧ Kernels.utf16_measure ch = .ok (utf16Measure ch) ∧
    KernelBridge.stepLoop Kernels.extract_utf8 mem (mem.length + 1) 0 = .ok (decodeUtf8 mem) ∧
    KernelBridge.stepLoop Kernels.extract_utf16 mem (mem.length + 1) 0 = .ok (decodeUtf16 mem) :=
  ⟨KernelBridge.write_utf8_eq ch, KernelBridge.write_utf16_eq ch, KernelBridge.utf8_measure_eq ch, KernelBridge.utf16_measure_eq ch,
   KernelBridge.utf8_loop_eq mem, KernelBridge.utf16_loop_eq mem⟩

example : Kernels.write_utf8 0x20AC = .ok ((0 : Int), [0xE2, 0x82, 0xAC]) ∧ Kernels.write_utf16 0x1F600 = .ok ((0 : Int), [0xD83D, 0xDE00]) := by
  decide

/-- the translated filling passes of include/st_utf_conv_priv.h are the model's `fill` over the model's decoder, in every
    mode (UTF-16 sources: units below 2^16), and the translated `validate_utf8` is the model's validator -/
theorem conversion_loops_are_model (mem : List Nat) (m : Mode) (subst : Bool) (fuel : Nat) (hf : mem.length < fuel) :
    Kernels.utf16_convert_from_utf8 mem fuel 0 mem.length (modeCode m) = fillResult (fill (stepCh .utf8 .utf16 m subst) (decode .utf8 mem)) ∧
    Kernels.utf32_convert_from_utf8 mem fuel 0 mem.length (modeCode m) = fillResult (fill (stepCh .utf8 .utf32 m subst) (decode .utf8 mem)) ∧
    Kernels.utf8_convert_from_utf32 mem fuel 0 mem.length (modeCode m) = fillResult (fill (stepCh .utf32 .utf8 m subst) (decode .utf32 mem)) ∧
    Kernels.utf16_convert_from_utf32 mem fuel 0 mem.length (modeCode m) = fillResult (fill (stepCh .utf32 .utf16 m subst) (decode .utf32 mem)) ∧
    ((∀ u ∈ mem, u < 65536) →
      Kernels.utf8_convert_from_utf16 mem fuel 0 mem.length (modeCode m) = fillResult (fill (stepCh .utf16 .utf8 m subst) (decode .utf16 mem)) ∧
      Kernels.utf32_convert_from_utf16 mem fuel 0 mem.length (modeCode m) = fillResult (fill (stepCh .utf16 .utf32 m subst) (decode .utf16 mem))) ∧
    Kernels.validate_utf8 mem fuel 0 mem.length = .ok ((validateUtf8 mem : Nat) : Int) :=
  ⟨utf16_convert_from_utf8_eq mem m subst fuel hf, utf32_convert_from_utf8_eq mem m subst fuel hf,
   utf8_convert_from_utf32_eq mem m subst fuel hf, utf16_convert_from_utf32_eq mem m subst fuel hf,
   fun hu => ⟨utf8_convert_from_utf16_eq mem m subst hu fuel hf, utf32_convert_from_utf16_eq mem m subst hu fuel hf⟩,
   validate_utf8_eq mem fuel hf⟩

end StVerif.Props.C01
