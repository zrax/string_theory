/- Tie of property C14 to the source: the theorems `translated function = model` (tools/gen_kernels.py regenerates
   StVerif/Generated/Kernels.lean from the C++ on every run).  Kept apart from Props/C14.lean so that a bridge that stops
   checking leaves the property's other theorems built and audited (DESIGN.md section 14). -/
import StVerif.Props.C14
import StVerif.Lemmas.KernelBridge
import StVerif.Lemmas.KernelCodec

namespace StVerif.Props.C14

/-- the translated `b64_encode_size` (include/st_codecs_priv.h) is the model's size function for every input length
    below 2^62 (beyond that the C++ multiplication wraps; such buffers cannot exist) -/
theorem encode_size_is_model (n : Nat) (h : n < 2 ^ 62) :
    StVerif.Generated.Kernels.b64_encode_size n = .ok (StVerif.Codec.b64EncodeSize n) :=
  KernelBridge.b64_encode_size_eq n h

/-- the translated `_ST_PRIVATE::hex_encode` and `b64_encode` (include/st_codecs_priv.h; loops, the `switch (size)`
    tail, the alphabets as the tables the function declares) are the model's encoders for every input:
    no load outside the source (`sp[1]`, `sp[2]` of a tail are read only when present), every table index inside the
    alphabet, the `default:` assertion unreachable -/
theorem translated_encoders_are_model (mem : List Nat) (hb : ∀ b ∈ mem, b < 256) (fuel : Nat) (hf : mem.length < fuel) :
    StVerif.Generated.Kernels.hex_encode mem fuel 0 mem.length = .ok (StVerif.Codec.hexEncode mem) ∧
    StVerif.Generated.Kernels.b64_encode mem fuel 0 mem.length = .ok (StVerif.Codec.b64Encode mem) :=
  ⟨KernelBridge.hex_encode_eq mem fuel hf, KernelBridge.b64_encode_eq mem hb fuel hf⟩

end StVerif.Props.C14
