/-
  C01 — well-formed text transcodes losslessly and to the standard encoding, by every route,
  in every validation mode.
-/
import StVerif.Lemmas.UtfString

namespace StVerif.Props.C01
open StVerif.Utf StVerif.Generated StVerif.Lemmas.Utf
open StVerif.Spec.Unicode

/-- UTF-8/16/32 → UTF-8/16/32 (the six directions): the standard encoding of a scalar sequence is
    converted to the standard encoding of the same sequence, whatever the validation mode. -/
theorem convert_std (src dst : Enc) (hne : src ≠ dst) (hs1 : src ≠ .latin1) (hd : dst ≠ .latin1) (m : Mode) (subst : Bool)
    (s : List Nat) (hs : ∀ c ∈ s, Scalar c) (hlen : (stdEnc src s).length < hugeBufferSize) :
    convert src dst m subst (some (stdEnc src s)) = .ok (stdEnc dst s) :=
  convert_stdEnc src dst hne m subst s hs (fun h => absurd h hs1) (fun h => absurd h hd) hlen

/-- there and back: standard text converted from `a` to `b` and the result back to `a` is the original code
    units, whatever the two modes (longer chains compose `convert_std` in the same way) -/
theorem chain_roundtrip (a b : Enc) (hne : a ≠ b) (ha : a ≠ .latin1) (hb : b ≠ .latin1) (m m' : Mode) (subst subst' : Bool)
    (s : List Nat) (hs : ∀ c ∈ s, Scalar c)
    (hla : (stdEnc a s).length < hugeBufferSize) (hlb : (stdEnc b s).length < hugeBufferSize) :
    (convert a b m subst (some (stdEnc a s))).bind (fun mid => convert b a m' subst' (some mid)) = .ok (stdEnc a s) := by
  rw [convert_std a b hne ha hb m subst s hs hla]
  exact convert_std b a (Ne.symm hne) hb ha m' subst' s hs hlb

/-- every byte string taken as Latin-1 converts to the standard encoding of the code points
    0..255 it denotes, and converts back unchanged -/
theorem latin1_roundtrip (t : Enc) (ht : t ≠ .latin1) (m m' : Mode) (subst subst' : Bool) (bs : List Nat) (hb : Bytes bs)
    (hl : bs.length < hugeBufferSize) (hl' : (stdEnc t bs).length < hugeBufferSize) :
    convert .latin1 t m subst (some bs) = .ok (stdEnc t bs) ∧
    convert t .latin1 m' subst' (some (stdEnc t bs)) = .ok bs :=
  have hs : ∀ c ∈ bs, Scalar c := fun c hc => scalar_of_byte (hb c hc)
  ⟨convert_stdEnc .latin1 t (Ne.symm ht) m subst bs hs (fun _ => hb) (fun _ => hb) hl,
    convert_stdEnc t .latin1 ht m' subst' bs hs (fun _ => hb) (fun _ => hb) hl'⟩

/-- building an `ST::string` (constructors, `set`, `operator=`, `from_*`, literals) from the standard
    encoding in any encoding stores the standard UTF-8, in every mode -/
theorem string_from_std (src : Enc) (m : Mode) (s : List Nat) (hs : ∀ c ∈ s, Scalar c)
    (hl1 : src = .latin1 → ∀ c ∈ s, c < 0x100) (hlen : (stdEnc src s).length < hugeBufferSize) :
    stringFrom src m (some (stdEnc src s)) = .ok (stdEnc .utf8 s) := by
  cases src with
  | utf8 => exact stringSet_of_valid m hlen (validate_stdEnc s hs)
  | _ => exact convert_stdEnc _ .utf8 (by decide) m true s hs hl1 nofun hlen

/-- `to_utf8 / to_utf16 / to_utf32 / to_wchar` of a string holding standard UTF-8 return the standard
    encoding; `to_latin_1` returns the bytes when every code point is below 0x100 -/
theorem string_to_std (dst : Enc) (subst : Bool) (s : List Nat) (hs : ∀ c ∈ s, Scalar c)
    (hlen : (stdEnc .utf8 s).length < hugeBufferSize) :
    (dst ≠ .latin1 → stringTo dst subst (stdEnc .utf8 s) = .ok (stdEnc dst s)) ∧
    (dst = .latin1 → (∀ c ∈ s, c < 0x100) → stringTo dst subst (stdEnc .utf8 s) = .ok s) := by
  have key : (dst = .latin1 → ∀ c ∈ s, c < 0x100) → stringTo dst subst (stdEnc .utf8 s) = .ok (stdEnc dst s) := by
    intro hd
    cases dst with
    | utf8 => rfl
    | utf16 => exact convert_stdEnc .utf8 .utf16 (by decide) .assumeValid subst s hs nofun hd hlen
    | utf32 => exact convert_stdEnc .utf8 .utf32 (by decide) .assumeValid subst s hs nofun hd hlen
    | latin1 => exact convert_stdEnc .utf8 .latin1 (by decide) .assumeValid subst s hs nofun hd hlen
  exact ⟨fun hd => key fun h => absurd h hd, fun hd hb => by subst hd; exact key fun _ => hb⟩

/-! non-vacuity: a scalar of each width and both neighbours of each boundary -/
example : ∀ c ∈ [0, 0x7F, 0x80, 0x7FF, 0x800, 0xD7FF, 0xE000, 0xFFFF, 0x10000, 0x10FFFF], Scalar c := by decide +kernel
example : stdEnc .utf8 [0x41, 0xE9, 0x20AC, 0x1F600] = [0x41, 0xC3, 0xA9, 0xE2, 0x82, 0xAC, 0xF0, 0x9F, 0x98, 0x80] := by decide +kernel
example : stdEnc .utf16 [0x41, 0x1F600] = [0x41, 0xD83D, 0xDE00] := by decide +kernel

end StVerif.Props.C01
