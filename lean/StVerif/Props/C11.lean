/-
  C11 — formatted output equals the specified rendering of literals, fields and padding.

  `Spec.Render.render` (Spec/Render.lean) says what a format call must produce, as a function of
  the *list* of format bytes and the argument values; `run` is the model of the code
  (`apply_format` driving `fetch_prefix` / `parse_format` / the `format_type` overloads into a sink).
  The main theorem is an equality of *outcomes* (output bytes, `bad_format`, `out_of_range`, the
  char-padding contract), for every format string without an embedded NUL and every argument list
  within `ArgsOk` (values in the range of their C++ type, libc reporting a size for every
  floating-point rendering); the remaining theorems are the clauses of the property read off the Spec.

  Readings chosen (DESIGN.md, C11): zero padding overrides an explicit alignment for integers; for
  text and booleans `0` only selects the pad character; precision is ignored for integers; the
  character class applies to integer and character arguments only; floating-point arguments are
  "rendered by libc, then padded" (the rendering itself is C13's subject and is a parameter here).
-/
import StVerif.Lemmas.FmtRun
import StVerif.Lemmas.UtfString

namespace StVerif.Props.C11
open StVerif.Fmt StVerif.Lemmas.Fmt
open StVerif.Spec StVerif.Spec.Render

/-- **refinement**: the sink receives exactly the bytes of the specified rendering, and fails
    exactly when and how the Spec says (all eight integer types of widths 8/16/32/64, the five
    character types, booleans, narrow strings, wide text (UTF-16 / UTF-32 units: rendered as the
    reference transcoding of C02, `unicode_error` when malformed), null strings, floating point with
    a libc rendering of any length; all flag combinations, all field orders, `&N` and sequential mixed) -/
theorem format_outcome_eq_spec (fmt : List Nat) (hz : NoNul fmt) (args : List Arg) (ha : ArgsOk args) :
    (run (some fmt) args).map flatten = render fmt args := by
  unfold run runEvents applyFormat render
  by_cases hn : args.length = 0
  · have he : args = [] := List.eq_nil_of_length_eq_zero hn
    subst he
    obtain ⟨⟨ev, p, more⟩, hnf, h1, h2, hbrace, hend⟩ := (nextFormat_spec fmt hz 0 (Nat.zero_le _)).exists_ok
    simp only [List.drop_zero] at h1 h2 hbrace hend
    simp only [List.length_nil, if_true, List.isEmpty_nil, hnf, Outcome.ok_bind]
    rw [show splitLiteral fmt = (flatten ev, fmt.drop p) from Prod.ext h1.symm h2.symm]
    cases more with
    | false => rw [hend rfl]; rfl
    | true => rw [(drop_of_rd (hbrace rfl) (by decide)).2]; rfl
  · simp only [hn, List.isEmpty_iff_length_eq_zero, if_false]
    exact applyLoop_eq_spec fmt hz args ha 0 0 (Nat.zero_le _)

/-- **formatted output equals the specified rendering**: a successful format call emits exactly
    the bytes `Spec.Render.render` prescribes -/
theorem format_eq_spec (fmt : List Nat) (hz : NoNul fmt) (args : List Arg) (ha : ArgsOk args) (ev : List Event)
    (h : run (some fmt) args = .ok ev) : render fmt args = .ok (flatten ev) := by
  rw [← format_outcome_eq_spec fmt hz args ha, h]; rfl

/-- **what `ST::format` returns**: the specified rendering passed through the requested UTF-8
    validation (C02's reference: unchanged, repaired, or `unicode_error`), for renderings of fewer
    than 2^28 bytes -/
theorem format_string_eq_spec (m : Mode) (fmt : List Nat) (hz : NoNul fmt) (args : List Arg) (ha : ArgsOk args)
    (bytes : List Nat) (hr : render fmt args = .ok bytes) (hb : Bytes bytes) (hlen : bytes.length < Generated.hugeBufferSize) :
    runFormat (.utf8 m) (some fmt) args = Unicode.referenceString m bytes := by
  have h := format_outcome_eq_spec fmt hz args ha
  rw [hr] at h
  obtain ⟨ev, hrun, hfl⟩ := Outcome.map_eq_ok.mp h
  rw [runFormat, hrun, Outcome.ok_bind, hfl]
  exact StVerif.Lemmas.Utf.stringSet_eq_reference m bytes hb hlen

/-- one field on one argument: every `format_type` overload emits the specified rendering, for
    every spec the parser can produce -/
theorem field_eq_spec (a : Arg) (f : FormatSpec) (ha : a.InRange) (hf : SpecInt f) (hfl : a.LibcRenders) :
    (formatType a f).map flatten = renderField f a :=
  formatType_eq_spec a f ha hf hfl

/-- …in particular for every integer width and signedness, outside the character class -/
theorem int_eq_spec (w : Nat) (hw : w = 8 ∨ w = 16 ∨ w = 32 ∨ w = 64) (f : FormatSpec) (hf : SpecInt f) (hc : f.digitClass ≠ .chr) :
    (∀ v : Int, -(2 ^ (w - 1) : Int) ≤ v → v < 2 ^ (w - 1) → (formatType (.sint w v) f).map flatten = .ok (renderInt f v)) ∧
    (∀ v : Nat, v < 2 ^ w → (formatType (.uint w v) f).map flatten = .ok (renderInt f v)) :=
  ⟨fun v h1 h2 => (formatType_eq_spec (.sint w v) f ⟨hw, h1, h2⟩ hf trivial).trans (if_neg hc),
    fun v h1 => (formatType_eq_spec (.uint w v) f ⟨hw, h1⟩ hf trivial).trans (if_neg hc)⟩

/-- the natural rendering of an integer: sign, prefix, digits -/
def naturalInt (f : FormatSpec) (v : Int) : List Nat :=
  signOf f v ++ prefixOf f v ++ digits (Render.radixOf f.digitClass).1 (Render.radixOf f.digitClass).2 v.natAbs

/-- the natural rendering of text: cut to the precision -/
def naturalText (f : FormatSpec) (text : List Nat) : List Nat :=
  if f.precision ≥ 0 then text.take f.precision.toNat else text

/-- padding inserts one run of pad characters at one end and leaves the text as it is … -/
theorem padTo_split (w : Int) (side : Side) (c : Nat) (body : List Nat) :
    ∃ a b k, padTo w side c body = a ++ List.replicate k c ++ b ∧ a ++ b = body := by
  cases side with
  | left => exact ⟨body, [], _, (List.append_nil _).symm, List.append_nil _⟩
  | right => exact ⟨[], body, _, rfl, rfl⟩

/-- … of just the length that fills the width -/
theorem padTo_length (w : Int) (side : Side) (c : Nat) (body : List Nat) :
    ((padTo w side c body).length : Int) = max w body.length := by
  cases side <;> simp only [padTo, List.length_append, List.length_replicate] <;> omega

/-- **extended, never truncated** (integers): the rendering is the natural rendering with one run
    of pad characters inserted -/
theorem never_truncated_int (f : FormatSpec) (v : Int) :
    ∃ a b k, renderInt f v = a ++ List.replicate k (padChar f) ++ b ∧ a ++ b = naturalInt f v := by
  unfold renderInt naturalInt
  cases f.numericPad with
  | true => exact ⟨_, _, _, rfl, rfl⟩
  | false => exact padTo_split ..

/-- **extended, never truncated** (text and booleans) -/
theorem never_truncated_text (f : FormatSpec) (text : List Nat) :
    ∃ a b k, renderText f text = a ++ List.replicate k (padChar f) ++ b ∧ a ++ b = naturalText f text :=
  padTo_split ..

/-- **the length is the larger of the minimum width and the natural length** -/
theorem length_eq_max_int (f : FormatSpec) (v : Int) :
    ((renderInt f v).length : Int) = max f.minimumLength (naturalInt f v).length := by
  unfold renderInt naturalInt
  split
  · -- zero padding is as long as padding in front
    rw [← padTo_length f.minimumLength .right (padChar f)]
    simp only [padTo, List.length_append, List.length_replicate]
    omega
  · exact padTo_length ..

theorem length_eq_max_text (f : FormatSpec) (text : List Nat) :
    ((renderText f text).length : Int) = max f.minimumLength (naturalText f text).length :=
  padTo_length ..

/-- **zero padding sits between sign/prefix and digits**, whatever alignment was given -/
theorem zero_pad_position (f : FormatSpec) (v : Int) (h : f.numericPad = true) :
    renderInt f v =
      signOf f v ++ prefixOf f v ++
        List.replicate (f.minimumLength - ((naturalInt f v).length : Int)).toNat (padChar f) ++
        digits (Render.radixOf f.digitClass).1 (Render.radixOf f.digitClass).2 v.natAbs := by
  unfold renderInt naturalInt
  simp only [h, if_true]

/-- the zero flag makes `0` the pad character and sets numeric padding; a `_c` directly after it
    keeps only the character (parser level: the flags as the grammar reads them) -/
theorem zero_flag (f : FormatSpec) (rest : List Nat) :
    parseItems (48 :: rest) f = parseItems rest { f with pad := 48, numericPad := true } ∧
    (∀ c r, rest = 95 :: c :: r → parseItems (48 :: rest) f = parseItems r { f with pad := c, numericPad := false }) := by
  have h1 : parseItems (48 :: rest) f = parseItems rest { f with pad := 48, numericPad := true } := by
    rw [parseItems_cons]; simp [flag]
  refine ⟨h1, ?_⟩
  rintro c r rfl
  rw [h1, parseItems_cons]; simp

/-- **fields without `&N` consume arguments left to right regardless of `&N` fields**: a
    referenced field leaves the sequential position where it was, an unreferenced one takes the
    argument at that position and advances it by one -/
theorem sequential_ignores_refs (f : FormatSpec) (seq : Nat) (args : List Arg) :
    (f.argIndex ≥ 0 → (select f seq args).2 = seq) ∧
    (f.argIndex < 0 → select f seq args = (args[seq]?, seq + 1)) ∧
    (f.argIndex ≥ 1 → (select f seq args).1 = args[(f.argIndex - 1).toNat]?) ∧
    (f.argIndex = 0 → (select f seq args).1 = none) := by
  unfold select
  exact ⟨fun h => by rw [if_pos h], fun h => if_neg (Int.not_le.2 h),
    fun h => by rw [if_pos (Int.le_trans (by decide) h), if_pos h], fun h => by rw [h]; rfl⟩

/-- **`{{` and `}}` reduce to single braces, every other literal byte is copied verbatim** -/
theorem escape_braces (s : List Nat) :
    splitLiteral (123 :: 123 :: s) = (123 :: (splitLiteral s).1, (splitLiteral s).2) ∧
    splitLiteral (125 :: 125 :: s) = (125 :: (splitLiteral s).1, (splitLiteral s).2) ∧
    (∀ c, c ≠ 123 → c ≠ 125 → splitLiteral (c :: s) = (c :: (splitLiteral s).1, (splitLiteral s).2)) ∧
    (s.head? ≠ some 125 → splitLiteral (125 :: s) = (125 :: (splitLiteral s).1, (splitLiteral s).2)) :=
  ⟨splitLiteral_double (Or.inl rfl) s, splitLiteral_double (Or.inr rfl) s, fun c h1 h2 => splitLiteral_lit c s h1 fun h => absurd h h2,
    fun h => splitLiteral_lit 125 s (by decide) fun _ => h⟩

/-- text without braces is literal text as a whole, with no field after it (so `render` returns
    it, whatever the arguments) -/
theorem literal_verbatim (s : List Nat) (h : ∀ b ∈ s, b ≠ 123 ∧ b ≠ 125) : splitLiteral s = (s, []) := by
  induction s with
  | nil => rw [splitLiteral]
  | cons c r ih =>
    have hc := h c List.mem_cons_self
    rw [splitLiteral_lit c r hc.1 (fun h => absurd h hc.2), ih (fun b hb => h b (List.mem_cons_of_mem _ hb))]

/-- **character class**: UTF-8 of the code point, U+FFFD when the value is not in 0..10FFFF, on
    three 64-bit arguments: `0x100000041` and `-4294967231`, whose low 32 bits look like the code
    point of "A", print U+FFFD, and `0x41` prints "A" (the defect found by this check and
    repaired: `0x100000041` used to print "A").  For every argument and spec the statement is
    `field_eq_spec`. -/
theorem char_class_wide :
    (formatType (.uint 64 0x100000041) { digitClass := .chr }).map flatten = .ok [0xEF, 0xBF, 0xBD] ∧
    (formatType (.sint 64 (-4294967231)) { digitClass := .chr }).map flatten = .ok [0xEF, 0xBF, 0xBD] ∧
    (formatType (.uint 64 0x41) { digitClass := .chr }).map flatten = .ok [0x41] ∧
    -- the arithmetic of the pinned code: narrowing first turned the value into 'A'
    toI32 0x100000041 = 0x41 := by
  refine ⟨by decide, by decide, by decide, by decide⟩

example : NoNul [123, 62, 54, 125, 65] := by unfold NoNul; decide
example : render [123, 62, 54, 125, 65] [.sint 32 (-5)] = .ok [32, 32, 32, 32, 45, 53, 65] := by decide +kernel
example : render [123, 48, 56, 35, 120, 125] [.uint 32 255] = .ok [48, 120, 48, 48, 48, 48, 102, 102] := by decide +kernel
example : render [123, 38, 50, 125, 123, 125] [.str [97], .str [98]] = .ok [98, 97] := by decide +kernel
/-- wide text: "{>4}" of u"é" is two pad characters and the two UTF-8 bytes; a lone surrogate is `unicode_error` -/
example : render [123, 62, 52, 125] [.wide .utf16 .checkValidity [0xE9]] = .ok [32, 32, 0xC3, 0xA9] := by decide +kernel
example : render [123, 125] [.wide .utf32 .checkValidity [0x110000]] = .throw .unicodeError := by decide +kernel
example : (Arg.wide .utf32 .checkValidity [0x1F600, 0x110000]).InRange := by
  refine ⟨Or.inr ⟨rfl, ?_⟩, by decide⟩
  intro x hx; simp at hx; omega

end StVerif.Props.C11
