/- Tie of property C11 to the source: the theorems `translated function = model` (tools/gen_kernels.py regenerates
   StVerif/Generated/Kernels.lean from the C++ on every run).  Kept apart from Props/C11.lean so that a bridge that stops
   checking leaves the property's other theorems built and audited (DESIGN.md section 14). -/
import StVerif.Props.C11
import StVerif.Lemmas.KernelFormat

namespace StVerif.Props.C11
open StVerif.Fmt

/-- the translated `_ST_PRIVATE::pad_size` (include/st_format_priv.h; the `format_spec` fields it reads as parameters,
    the `switch` on the digit class, signed arithmetic checked for overflow) is the model's `padSize` for every
    width an `int` can hold and every text below 2^62 bytes: in particular `--pad_size` / `pad_size -= 2` never overflow -/
theorem translated_pad_size_is_model (f : FormatSpec) (size : Nat) (nt : StVerif.Fmt.NumType)
    (hmin : -(2:Int)^31 ≤ f.minimumLength ∧ f.minimumLength < (2:Int)^31) (hsize : size < 2 ^ 62) :
    StVerif.Generated.Kernels.pad_size (if f.alwaysSigned then 1 else 0) (if f.classPrefix then 1 else 0)
      (KernelBridge.digitCode f.digitClass) f.minimumLength size (KernelBridge.numCode nt) = .ok (StVerif.Fmt.padSize f size nt) :=
  KernelBridge.pad_size_eq f size nt hmin hsize

/-- the translated `_ST_PRIVATE::format_numeric_prefix` and `format_numeric_string` (include/st_format_priv.h; the sink
    as the list of its `append` / `append_char` calls) are the model's `numericPrefix` and
    `formatNumericString`: sign, radix prefix, padding and digits in the order the alignment and the '0' flag select, for
    every field specification and every digit text; the digit text is the only thing read, no signed overflow occurs -/
theorem translated_numeric_layout_is_model (f : FormatSpec) (text : List Nat) (nt : StVerif.Fmt.NumType)
    (hpad : f.pad < 256) (hmin : -(2:Int)^31 ≤ f.minimumLength ∧ f.minimumLength < (2:Int)^31) (hlen : text.length < 2 ^ 62) :
    StVerif.Generated.Kernels.format_numeric_prefix (if f.alwaysSigned then 1 else 0) (if f.classPrefix then 1 else 0)
      (KernelBridge.digitCode f.digitClass) (KernelBridge.numCode nt) = .ok ((StVerif.Fmt.numericPrefix f nt).map KernelBridge.ofEvent) ∧
    StVerif.Generated.Kernels.format_numeric_string text (KernelBridge.alignCode f.alignment)
      (if f.alwaysSigned then 1 else 0) (if f.classPrefix then 1 else 0) (KernelBridge.digitCode f.digitClass) f.minimumLength
      (if f.numericPad then 1 else 0) (StVerif.Cxx.toChar f.pad) 0 text.length (KernelBridge.numCode nt)
      = .ok ((StVerif.Fmt.formatNumericString f text nt).map KernelBridge.ofEvent) :=
  ⟨KernelBridge.format_numeric_prefix_eq f nt, KernelBridge.format_numeric_string_eq' f text nt hpad hmin hlen⟩

/-- the translated `ST::format_string` (include/st_formatter.h; the padding / truncation of every text-like argument;
    `static_cast<int>(size)` and the unsigned `minimum_length - size` as the explicit wrap-arounds they are) is the
    model's `formatString` for EVERY text length below 2^64 - also 2^31 and more, where the narrowing wraps - and every width
    and precision: the only thing read is `text.take` of the effective size, never anything outside the text -/
theorem translated_format_string_is_model (f : FormatSpec) (text : List Nat) (hpad : f.pad < 256) (hlen : text.length < 2 ^ 64) :
    StVerif.Generated.Kernels.format_string text (KernelBridge.alignCode f.alignment) f.minimumLength (StVerif.Cxx.toChar f.pad)
      f.precision 0 text.length 1 = .ok ((StVerif.Fmt.formatString f text).map KernelBridge.ofEvent) :=
  KernelBridge.format_string_eq f text hpad hlen

end StVerif.Props.C11
