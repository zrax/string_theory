/-
  C12 — integer → text → integer is exact for every value, width and base.
-/
import StVerif.Lemmas.Num
import StVerif.Lemmas.NumParse

namespace StVerif.Props.C12
open StVerif.Num StVerif.Spec.Digits StVerif.Lemmas.Digits StVerif.Lemmas.Num StVerif.Lemmas.NumParse

/-- a base the library documents: 2 … 36 -/
def ValidBase (b : Nat) : Prop := 2 ≤ b ∧ b ≤ 36

/-- `from_uint` of every value of every unsigned type, in every base and letter case, is the canonical
    digit string (no leading zero, "0" for zero, letters in the requested case) -/
theorem from_uint_canonical (t : IntTy) (ht : t.signed = false) (base : Nat) (hb : ValidBase base) (upper : Bool)
    (v : Int) (hv : t.holds v) : fromInt t base upper v = .ok (natText base upper v.natAbs) := by
  rw [fromInt_eq hb.1 hb.2 upper hv, intText_nonneg (holds_unsigned ht hv).1]

/-- `from_int` of every value of every signed type — the most negative one included — is a '-' for
    negatives followed by the canonical digits of the magnitude -/
theorem from_int_canonical (t : IntTy) (ht : t.signed = true) (base : Nat) (hb : ValidBase base) (upper : Bool)
    (v : Int) (hv : t.holds v) : fromInt t base upper v = .ok (intText base upper v) :=
  fromInt_eq hb.1 hb.2 upper hv

/-- the canonical text really is *the* representation: its digit values are below the base, have the
    value `n`, and no other digit list without a leading zero has (uniqueness) -/
theorem canonical_meaning (base : Nat) (hb : ValidBase base) (n : Nat) (ds : List Nat) :
    Canonical base n ds ↔ ds = digits base n := canonical_iff base hb.1 n ds

/-- the digit generator never steps outside `m_buffer[digits + 1]`: for every width `w ≥ 1`, every
    value below `2^w` and every base ≥ 2 (base 2 of the widest value is the tight case) `m_start`
    ends at an index `< w`, i.e. at least one and at most `w` characters were stored in front of the NUL -/
theorem buffer_fits (w value radix : Nat) (upper : Bool) (hr : 2 ≤ radix) (hw : 0 < w) (hv : value < 2 ^ w) :
    ∃ f, uintFormat w value radix upper = .ok f ∧ f.start < w ∧ f.size w = f.chars.length ∧ f.chars.length ≤ w := by
  generalize hcs : (digits radix value).map (digitCharCode upper) = cs
  have hlen : cs.length = (digits radix value).length := by rw [← hcs, List.length_map]
  have hl : cs.length ≤ w := hlen ▸ digits_length_le_of_lt_two_pow radix hr w value hw hv
  have hpos : 0 < cs.length := hlen ▸ List.length_pos_iff.mpr (digits_ne_nil radix value)
  exact ⟨_, uintFormat_eq hr hw hv hcs, Nat.sub_lt hw hpos, size_mk hl, hl⟩

/-- the tight case is reached: base 2 of the widest value fills the buffer exactly -/
example : uintFormat 16 (2 ^ 16 - 1) 2 false = .ok { start := 0, chars := List.replicate 16 49 } := by decide +kernel

/-- the integer formatter behind `ST::format` (`format_numeric_s/u` as `formatInt` transcribes them: digits and
    sign; parsing the field and padding belong to C10/C11 and their own model) gives, for the digit class of a
    `{}`, `{d}`, `{x}`, `{X}`, `{o}`, `{b}` field, the canonical text of the argument in the base of that class,
    for every integer type and value -/
theorem format_canonical (t : IntTy) (dc : DigitClass) (hdc : dc ≠ .chr) (v : Int) (hv : t.holds v) :
    ∃ radix upper, radixOf dc = .ok (radix, upper) ∧ ValidBase radix ∧
      formatInt t dc v = .ok (if t.signed then intText radix upper v else natText radix upper v.natAbs) := by
  have hrad : ∃ radix upper, radixOf dc = .ok (radix, upper) ∧ ValidBase radix := by
    cases dc with
    | chr => exact absurd rfl hdc
    | dflt | dec | hex | hexUpper | oct | bin => exact ⟨_, _, rfl, by decide, by decide⟩
  obtain ⟨radix, upper, hro, hb⟩ := hrad
  refine ⟨radix, upper, hro, hb, ?_⟩
  rw [formatInt_eq_fromInt t dc radix upper hro, fromInt_eq hb.1 hb.2 upper hv]
  cases ht : t.signed with
  | true => rfl
  | false => rw [intText_nonneg (holds_unsigned ht hv).1]; rfl

/-- `string_stream << value` gives the canonical decimal text (types narrower than `int` promote) -/
theorem stream_canonical (t : IntTy) (v : Int) (hv : t.holds v) : streamInt t v = .ok (intText 10 false v) := by
  rw [streamInt_eq_formatInt, formatInt_eq_fromInt _ .dec 10 false rfl]
  exact fromInt_eq (by decide) (by decide) false (holds_promoted hv)

def classOf (base : Nat) (upper : Bool) : DigitClass :=
  if base = 16 then (if upper then .hexUpper else .hex) else if base = 8 then .oct else if base = 2 then .bin else .dflt

/-- The three printers agree: for the four bases `ST::format` knows (10, 16 in both cases, 8, 2)
    `from_int`/`from_uint` and `ST::format` return the same text, and for base 10 so does
    `string_stream <<` -/
theorem printers_agree (t : IntTy) (base : Nat) (hbase : base = 10 ∨ base = 16 ∨ base = 8 ∨ base = 2) (upper : Bool)
    (hup : upper = true → base = 16) (v : Int) (hv : t.holds v) :
    fromInt t base upper v = formatInt t (classOf base upper) v ∧
    (base = 10 → fromInt t base upper v = streamInt t v) := by
  have hcls : radixOf (classOf base upper) = .ok (base, upper) := by
    cases upper with
    | false => rcases hbase with rfl | rfl | rfl | rfl <;> rfl
    | true => rw [hup rfl]; rfl
  refine ⟨(formatInt_eq_fromInt t _ base upper hcls v).symm, fun h10 => ?_⟩
  subst h10
  cases upper with
  | false => rw [fromInt_eq (base := 10) (by decide) (by decide) false hv, stream_canonical t v hv]
  | true => exact absurd (hup rfl) (by decide)

/-- no printer invokes undefined behaviour, trips an assertion or leaves its buffer: each returns a
    string for every value of every type, the most negative ones included -/
theorem no_ub (t : IntTy) (v : Int) (hv : t.holds v) :
    (∀ base upper, ValidBase base → (fromInt t base upper v).isOk = true) ∧
    (∀ dc, dc ≠ .chr → (formatInt t dc v).isOk = true) ∧
    (streamInt t v).isOk = true := by
  refine ⟨fun base upper hb => ?_, fun dc hdc => ?_, ?_⟩
  · rw [fromInt_eq hb.1 hb.2 upper hv]; rfl
  · obtain ⟨_, _, _, _, h⟩ := format_canonical t dc hdc v hv
    rw [h]; rfl
  · rw [stream_canonical t v hv]; rfl

/-- Meaning of the flags for arbitrary text: the empty string is a full match without `ok` (value 0);
    otherwise the value is what `strtol`/`strtoul` return on the C string, narrowed to the result type,
    `ok` ⇔ at least one character was consumed and `full_match` ⇔ the number consumed equals `size()`;
    the overload without a result returns the same value. -/
theorem flags_meaning (t : IntTy) (s : List Nat) (base : Nat) :
    (s = [] → toIntTyR t s base = (0, { ok := false, fullMatch := true })) ∧
    (s ≠ [] → t.signed = true →
      toIntTyR t s base = (toSigned t.bits (wrapW 64 (strtol s base).value),
        { ok := decide ((strtol s base).endp ≠ 0), fullMatch := decide ((strtol s base).endp = s.length) })) ∧
    (s ≠ [] → t.signed = false →
      toIntTyR t s base = ((((strtoul s base).value % 2 ^ t.bits : Nat) : Int),
        { ok := decide ((strtoul s base).endp ≠ 0), fullMatch := decide ((strtoul s base).endp = s.length) })) ∧
    (s ≠ [] → toIntTy t s base = (toIntTyR t s base).1) := by
  refine ⟨fun h => ?_, fun h ht => ?_, fun h ht => ?_, fun h => ?_⟩
  · subst h
    cases t <;> rfl
  · rw [toIntTyR_signed ht, toLongR_of_ne h]; rfl
  · rw [toIntTyR_unsigned ht, toUlongR_of_ne h]; rfl
  · exact toIntTy_eq_fst t h base

/-- the characters consumed always lie inside the string: `endp ≤ size()`, so `full_match` (`endp = size()`)
    does mean that all of them were consumed -/
theorem consumed_within (s : List Nat) (base : Nat) :
    (strtol s base).endp ≤ s.length ∧ (strtoul s base).endp ≤ s.length :=
  ⟨strtol_endp_le s base, strtoul_endp_le s base⟩

/-- a base `strtol` accepts: 0 (auto-detect) or 2 … 36 -/
def ParseBase (b : Nat) : Prop := b = 0 ∨ (2 ≤ b ∧ b ≤ 36)

/-- The transcription of glibc's `strtol`/`strtoul` computes the *declarative* numeral prefix
    (`Spec.Digits.parseSpec`: white space, optional sign, optional `0x` when a hex digit follows, longest
    digit run; base 0 auto-detects) with the standard saturation, and stores its length through `endptr` —
    for every text and every legal base.  (That the transcription is what this platform's libc does is
    validated by the correspondence run, not proved.) -/
theorem strtol_eq_parseSpec (base : Nat) (hb : ParseBase base) (s : List Nat) :
    (strtol s base).value = clampSigned 64 (parseSpec base s) ∧ (strtol s base).endp = (parseSpec base s).consumed ∧
    (strtoul s base).value = clampUnsigned 64 (parseSpec base s) ∧ (strtoul s base).endp = (parseSpec base s).consumed :=
  ⟨(strtol_eq base s).1, (strtol_eq base s).2, (strtoul_eq base s).1, (strtoul_eq base s).2⟩

/-- Parsing arbitrary text, in terms of the specification only: a non-empty string gives the clamped
    value of its numeral prefix narrowed to the result type, `ok` ⇔ the prefix is non-empty, `full_match`
    ⇔ the prefix is the whole string -/
theorem parse_meaning (t : IntTy) (s : List Nat) (hs : s ≠ []) (base : Nat) (hb : ParseBase base) :
    toIntTyR t s base =
      (if t.signed then toSigned t.bits (wrapW 64 (clampSigned 64 (parseSpec base s)))
       else (((clampUnsigned 64 (parseSpec base s)) % 2 ^ t.bits : Nat) : Int),
       { ok := decide ((parseSpec base s).consumed ≠ 0), fullMatch := decide ((parseSpec base s).consumed = s.length) }) := by
  obtain ⟨h1, h2, h3, h4⟩ := strtol_eq_parseSpec base hb s
  cases ht : t.signed with
  | true => rw [toIntTyR_signed ht, toLongR_of_ne hs, h1, h2]; rfl
  | false => rw [toIntTyR_unsigned ht, toUlongR_of_ne hs, h3, h4]; rfl

/-- Narrowing: `to_short`/`to_int` are `static_cast`s of `to_long` (two's-complement reduction),
    `to_ushort`/`to_uint` of `to_ulong`, with the same flags; a value that fits the narrower type is
    returned unchanged. -/
theorem narrowing (t : IntTy) (s : List Nat) (base : Nat) (hbase : base = 0 ∨ 2 ≤ base) :
    (t.signed = true → (toIntTyR t s base).1 = toSigned t.bits (wrapW 64 (toIntTyR .s64 s base).1) ∧
      (toIntTyR t s base).2 = (toIntTyR .s64 s base).2) ∧
    (t.signed = false → (toIntTyR t s base).1 = (((toIntTyR .u64 s base).1.toNat % 2 ^ t.bits : Nat) : Int) ∧
      (toIntTyR t s base).2 = (toIntTyR .u64 s base).2) ∧
    (∀ x : Int, t.holds x → (if t.signed then toSigned t.bits (wrapW 64 x) else ((x.toNat % 2 ^ t.bits : Nat) : Int)) = x) := by
  refine ⟨fun ht => ?_, fun ht => ?_, cast_fits t⟩
  · have hrange := toLongR_range s base
    rw [toIntTyR_signed ht, toIntTyR_signed (t := .s64) rfl]
    exact ⟨by rw [show IntTy.s64.bits = 64 from rfl, toSigned_wrapW (by decide) (Nat.le_refl 64) hrange.1 hrange.2], rfl⟩
  · rw [toIntTyR_unsigned ht, toIntTyR_unsigned (t := .u64) rfl]
    exact ⟨by rw [show IntTy.u64.bits = 64 from rfl, Int.toNat_natCast, Nat.mod_eq_of_lt (toUlongR_lt s base)], rfl⟩

/-- Printing then parsing is exact: for every value of every signed or unsigned type, every base 2…36 and
    both letter cases, the text `from_int`/`from_uint` returns, parsed in the same base by any `to_*`
    member of the same signedness and at least the same width, gives the original value with `ok` and
    `full_match` both set; the overload without a result returns the value too.  (`to_long`,
    `to_long_long`, `to_int64` are `.s64`/`.sll`; the most negative value is included.) -/
theorem roundtrip (t : IntTy) (base : Nat) (hb : ValidBase base) (upper : Bool) (v : Int) (hv : t.holds v)
    (t' : IntTy) (hs : t'.signed = t.signed) (hwide : t.bits ≤ t'.bits) :
    ∃ text, fromInt t base upper v = .ok text ∧
      toIntTyR t' text base = (v, { ok := true, fullMatch := true }) ∧ toIntTy t' text base = v := by
  have hne := intText_ne_nil base upper v
  have hv' : t'.holds v := holds_mono hs hwide hv
  have hR : toIntTyR t' (intText base upper v) base = (v, { ok := true, fullMatch := true }) := by
    rw [parse_meaning t' _ hne base (Or.inr hb), parseSpec_intText base hb.1 hb.2]
    dsimp only
    rw [decide_eq_true (show (intText base upper v).length ≠ 0 from fun h => hne (List.eq_nil_of_length_eq_zero h)),
      decide_eq_true rfl]
    refine congrArg (·, _) (Eq.trans ?_ (cast_fits t' v hv'))
    cases ht' : t'.signed with
    | true =>
      have h64 := holds_long ht' hv'
      rw [clampSigned_of_fits 64 v _ h64.1 h64.2]
      rfl
    | false =>
      obtain ⟨n, rfl⟩ := Int.eq_ofNat_of_zero_le (holds_unsigned ht' hv').1
      have h64 : n < 2 ^ 64 := Nat.lt_of_lt_of_le (natAbs_lt hv') (Nat.pow_le_pow_right (by decide) (bits_le_64 t'))
      rw [clampUnsigned_of_fits 64 n _ (Int.natCast_nonneg n) h64, Int.toNat_natCast]
      rfl
  refine ⟨intText base upper v, fromInt_eq hb.1 hb.2 upper hv, hR, ?_⟩
  rw [toIntTy_eq_fst t' hne, hR]

/-! The pinned tree (before the repair "fix: negate in the unsigned type when formatting negative integers")
    violated `no_ub`: `std::abs` of the most negative value. -/

/-- witness of defect #12 in `ST::format`: `format_numeric_s<int>` at `INT_MIN` -/
theorem pinned_format_ub_witness : Pinned.formatNumericS 32 .dflt (-2147483648) = .ub "negation" := rfl

/-- witness of defect #12 in `string_stream::operator<<(long long)` at `LLONG_MIN` -/
theorem pinned_stream_ub_witness : Pinned.streamSigned 64 (-9223372036854775808) = .ub "negation" := rfl

/-- 16-bit values were never affected: `std::abs` acts on the promoted `int` -/
example : Pinned.formatNumericS 16 .dflt (-32768) = .ok [45, 51, 50, 55, 54, 56] := by decide +kernel

/-! non-vacuity: the hypotheses are satisfiable and the most negative values go through every printer -/
example : IntTy.s32.holds (-2147483648) ∧ ValidBase 36 := ⟨by decide, by unfold ValidBase; omega⟩
example : fromInt .s32 10 false (-2147483648) = .ok [45, 50, 49, 52, 55, 52, 56, 51, 54, 52, 56] := by decide +kernel
example : formatInt .s32 .dflt (-2147483648) = .ok [45, 50, 49, 52, 55, 52, 56, 51, 54, 52, 56] := by decide +kernel
example : streamInt .s32 (-2147483648) = .ok [45, 50, 49, 52, 55, 52, 56, 51, 54, 52, 56] := by decide +kernel
example : toIntTyR .s32 [45, 50, 49, 52, 55, 52, 56, 51, 54, 52, 56] 10 = (-2147483648, { ok := true, fullMatch := true }) := by decide +kernel
example : toIntTyR .s64 [] 0 = (0, { ok := false, fullMatch := true }) := by decide +kernel
/-- "0x" alone: one character consumed (glibc 2.36), `ok` without `full_match` -/
example : toIntTyR .s64 [48, 120] 16 = (0, { ok := true, fullMatch := false }) := by decide +kernel
/-- saturation with ERANGE, then narrowing: `to_int("99999999999999999999")` is `(int)LONG_MAX = -1` -/
example : toIntTyR .s32 (List.replicate 20 57) 10 = (-1, { ok := true, fullMatch := true }) := by decide +kernel

end StVerif.Props.C12
