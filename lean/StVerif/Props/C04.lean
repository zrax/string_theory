/-
  C04 — ST::string has value semantics: reads never mutate, results never alias.

  Model: `Model/StrPool.lean` (an `ST::string` is one `ST::char_buffer` held by value; every public
  operation is a do-block over the buffer members of `Model/Pool.lean`, temporaries and unwinding
  included).  What a const operation computes is a parameter (the business of C06–C14); what is
  proved here is *where results live and what else is touched*, for every history.

  `p'.objs x = p.objs x` is equality of the whole object representation: size, in-object bytes and
  the data pointer; `view p' x = view p x` is equality of `(size(), data()[0..size))`.
-/
import StVerif.Lemmas.StrPoolReach
import StVerif.Props.C05

namespace StVerif.Props.C04
open StVerif.Pool StVerif.StrPool

/-- operations that only read their operands: const members and free functions producing new strings /
    buffers (`derive`), computing something else (`query`), or throwing while doing so (`deriveThrow`) -/
def IsConst : SOp → Prop
  | .derive _ | .deriveThrow _ | .query => True
  | _ => False

/-- **reads never mutate**: after any history, a completed const operation leaves every live object — its source and
    arguments included — with the same bytes, size and data pointer. -/
theorem const_frame {L : Nat} (hL : 0 < L) {p p' : Pool} (hr : SReach L p) (op : SOp) (hc : IsConst op) (hpre : op.pre p)
    (h : op.run p = .ok () p') (x : Nat) (hx : alive p x) : p'.objs x = p.objs x ∧ view p' x = view p x := by
  have s1 := hr.succ_of_ok hL hpre h
  have hnt : ¬ x ∈ op.targets := by
    cases op with
    | derive ds =>
      intro hm
      obtain ⟨b, hb⟩ := hx
      rw [(hpre.1 x hm).2] at hb; cases hb
    | deriveThrow | query => exact List.not_mem_nil
    | _ => exact False.elim hc
  exact ⟨s1.objs x hnt, s1.view x hnt⟩

/-- **results never alias** (and nothing else does): after any history the data pointers `m_chars` of two distinct
    live objects differ, so two live objects never share storage. -/
theorem results_fresh {L : Nat} (hL : 0 < L) {p : Pool} (hr : SReach L p) {o₁ o₂ : Nat} {b₁ b₂ : Buf}
    (h₁ : p.objs o₁ = some b₁) (h₂ : p.objs o₂ = some b₂) (hne : o₁ ≠ o₂) : b₁.chars ≠ b₂.chars :=
  Props.C05.exclusive (sreach_inv hL hr).1 h₁ h₂ hne

/-- **independence**: whatever a completed operation does to its targets (modify, reassign, move from, destroy), every
    other object keeps its bytes, size and data pointer.  Copies are therefore independent deep copies. -/
theorem independent {L : Nat} (hL : 0 < L) {p p' : Pool} (hr : SReach L p) (op : SOp) (hpre : op.pre p)
    (h : op.run p = .ok () p') (x : Nat) (hx : x ∉ op.targets) : p'.objs x = p.objs x ∧ view p' x = view p x := by
  have s1 := hr.succ_of_ok hL hpre h
  exact ⟨s1.objs x hx, s1.view x hx⟩

/-- **a value changes only through a mutator applied to that very object**: if an object reports a different value
    (or lives elsewhere) after a completed operation, it is one of the operation's targets — the object assigned to, set,
    appended to, cleared, constructed or destroyed, or the source of a move. -/
theorem value_changes_only_by_mutator {L : Nat} (hL : 0 < L) {p p' : Pool} (hr : SReach L p) (op : SOp) (hpre : op.pre p)
    (h : op.run p = .ok () p') (x : Nat) (hchg : view p' x ≠ view p x ∨ p'.objs x ≠ p.objs x) : x ∈ op.targets := by
  refine Decidable.by_contra fun hx => ?_
  obtain ⟨a, b⟩ := independent hL hr op hpre h x hx
  rcases hchg with h' | h'
  · exact h' b
  · exact h' a

/-- no operation of any history ends in a memory fault (bad free, double free, use after free, out of bounds) -/
theorem never_faults {L : Nat} (hL : 0 < L) {p : Pool} (hr : SReach L p) (op : SOp) (hpre : op.pre p) :
    ∀ f p', op.run p ≠ .fault f p' := by
  obtain ⟨hI, hT, hF⟩ := sreach_inv hL hr
  intro f p' hf
  rcases sop_spec hI hF hT op hpre with ⟨p'', h1, _⟩ | ⟨e, p'', h1, _⟩ <;> (rw [hf] at h1; cases h1)

/-- the temporaries an operation creates never outlive it, and their storage is released (with the invariant's
    "every block has an owner" this is: nothing leaks) -/
theorem temporaries_gone {L : Nat} (hL : 0 < L) {p : Pool} (hr : SReach L p) :
    TempsDead p ∧ ∀ k blk, p.heap k = some blk → ∃ o, Owns p o k ∧ ¬ isTemp o := by
  obtain ⟨hI, hT, _⟩ := sreach_inv hL hr
  refine ⟨hT, fun k blk hk => ?_⟩
  obtain ⟨o, ho⟩ := hI.noLeak k blk hk
  refine ⟨o, ho, fun ht => ?_⟩
  obtain ⟨b, hb, _⟩ := ho
  rw [hT o ht] at hb; cases hb

/-- a history exists at every step: from any reachable state an operation whose precondition holds has an outcome,
    and the state it leads to is reachable again (so the quantifiers above range over all finite histories) -/
theorem progress {L : Nat} (hL : 0 < L) {p : Pool} (hr : SReach L p) (op : SOp) (hpre : op.pre p) :
    ∃ p', SReach L p' ∧ ((op.run p = .ok () p') ∨ ∃ e, op.run p = .throw e p') := by
  obtain ⟨hI, hT, hF⟩ := sreach_inv hL hr
  rcases sop_spec hI hF hT op hpre with ⟨p', h1, _⟩ | ⟨e, p', h1, _⟩
  · exact ⟨p', .ok hr hpre h1, Or.inl h1⟩
  · exact ⟨p', .thrown hr hpre h1, Or.inr ⟨e, h1⟩⟩

/-- concrete instance: a 20-byte string (heap storage at limit 16) can be constructed in the empty pool, and a const
    operation on it then satisfies its precondition -/
example : ∃ p1, SReach 16 p1 ∧ (SOp.ctorText 0 (List.replicate 20 0x61) .checkValidity).run (Pool.init 16) = .ok () p1 ∧
    (SOp.derive [(1, [0x61, 0x62, 0x63])]).pre p1 ∧ IsConst (SOp.derive [(1, [0x61, 0x62, 0x63])]) := by
  have hpre : (SOp.ctorText 0 (List.replicate 20 0x61) .checkValidity).pre (Pool.init 16) := ⟨userId_zero, rfl⟩
  obtain ⟨hI, hT, hF⟩ := sreach_inv (by decide : 0 < 16) (.init : SReach 16 (Pool.init 16))
  rcases ctorText_f hI (o := 0) rfl (hT _ isTemp_A) (hT _ isTemp_C) (by decide) (by decide) (List.replicate 20 0x61) .checkValidity with
    ⟨p1, h1, s1, _⟩ | ⟨_, _, _, _, ht | hf⟩
  · refine ⟨p1, .ok .init hpre h1, h1, ⟨?_, by decide⟩, trivial⟩
    intro d hd
    simp only [List.map_cons, List.map_nil, List.mem_singleton] at hd
    subst hd
    refine ⟨by unfold userId; decide, ?_⟩
    rw [s1.objs 1 (by decide)]; rfl
  · -- the constructor cannot throw: the text is valid UTF-8
    exact absurd ht.1 (by decide)
  · exact absurd hF hf.2

end StVerif.Props.C04
