/-
  C20 — Concurrent use needs no locking.

  **This is the property where the theorem carries the least weight.**  What is proved here is
  *non-interference on the model*: on the object/heap machine of C04/C05 (`Model/Pool.lean`,
  `Model/StrPool.lean`) with the objects partitioned into a shared immutable pool and one private
  pool per thread (`Model/Sched.lean`), for every number of threads, all programs and **every
  interleaving**, each thread observes exactly what it observes when run alone, and the shared
  objects never change.  The proof rests on one premise that is a structural fact of the model and
  has to be *checked against the source* rather than proved: the pool is all the state there is.
  That premise is `statics_immutable` / `unsafe_calls_empty`: `decide` over the inventory of
  static-storage variables and external calls that `tools/gen_statics.py` regenerates from the clang
  AST of every public header on every run — a new mutable static makes this file fail to build.

  What the model cannot express, and what therefore stays *observed* (ThreadSanitizer harness), not
  proved: the hardware / C++ memory model (operations are interleaved whole; that a data-race-free
  program behaves like such an interleaving is the language's guarantee), races inside libc and
  libstdc++, state hidden behind `mutable` or `const_cast`.
-/
import StVerif.Generated.Statics
import StVerif.Lemmas.Sched

namespace StVerif.Props.C20
open StVerif.Pool StVerif.StrPool StVerif.Sched

/-- **no hidden shared mutable state**: every variable with static storage duration that the library's headers declare
    (namespace scope, static data members, function-local statics; regenerated from the clang AST on every run) is
    immutable.  A variable with *thread* storage duration is listed too, and accepted: it exists once per thread, so
    it is part of that thread's private state and cannot carry anything from one thread to another. -/
theorem statics_immutable :
    Generated.mutableStatics = [] ∧ ∀ v ∈ Generated.statics, v.isConst = true ∨ v.threadLocal = true := by
  constructor
  · unfold Generated.mutableStatics; decide     -- (unfolded first, so that a failure names the offending variables)
  · decide

/-- every external function the headers reference is inside the allow-list of functions documented MT-Safe -/
theorem unsafe_calls_empty : Generated.unsafeCalls = [] := by unfold Generated.unsafeCalls; decide

/-- **an operation writes only its targets** (and fresh storage): whatever operation thread `s` executes on a good
    state — completed, thrown or refused — every object that `s` does not own is afterwards the very same object
    (size, in-object bytes, data pointer) reporting the same value; the state is good again (C05's invariant: storage
    exclusively owned, nothing leaked; no temporary alive). -/
theorem step_frame (part : Part) (s : Tid) (p : Pool) (top : TOp) (hG : Good p) :
    Good (execOp part s p top).1 ∧
    ∀ x, part x ≠ .priv s → (execOp part s p top).1.objs x = p.objs x ∧ view (execOp part s p top).1 x = view p x := by
  obtain ⟨g, h⟩ := execOp_frame (part := part) (s := s) top hG
  exact ⟨g, fun x hx => h x (Bool.eq_false_iff.mpr (mt writable_iff.mp hx))⟩

/-- **an operation reads only its operands**: executed in two good states in which everything the thread may read
    (the shared objects and its own) reports the same values — whatever else differs: other threads' objects, heap
    layout, block numbers, allocation counter — the operation ends the same way, hands back the same result, leaves
    the thread's own objects with the same values, and the two states again agree on everything the thread may read. -/
theorem own_step_local (part : Part) (t : Tid) (p q : Pool) (top : TOp) (hp : Good p) (hq : Good q)
    (hA : ∀ x, part x = .shared ∨ part x = .priv t → view p x = view q x) :
    (execOp part t p top).2 = (execOp part t q top).2 ∧
    ∀ x, part x = .shared ∨ part x = .priv t → view (execOp part t p top).1 x = view (execOp part t q top).1 x := by
  have hA' : Agree part t p q := fun x hx => hA x (readable_iff.mp hx)
  obtain ⟨_, _, a, o⟩ := execOp_agree top hp hq hA'
  exact ⟨o, fun x hx => a x (readable_iff.mpr hx)⟩

/-- goodness is kept by every schedule -/
theorem reachable_inv (part : Part) (sched : List Tid) (c : Config) (hG : Good c.pool) : Good (run part sched c).pool :=
  (run_frame part sched c hG).1

/-- **shared objects are immutable under every schedule**: after any interleaving of any programs, every shared object
    is bit-identical (size, bytes, data pointer) and reports the same value. -/
theorem shared_unchanged (part : Part) (sched : List Tid) (c : Config) (hG : Good c.pool) (x : Nat) (hx : part x = .shared) :
    (run part sched c).pool.objs x = c.pool.objs x ∧ view (run part sched c).pool x = view c.pool x :=
  (run_frame part sched c hG).2 x hx

/-- **a thread's private objects are untouched by the other threads**: a turn of thread `s ≠ t` leaves every object of
    thread `t` bit-identical. -/
theorem others_private_unchanged (part : Part) (s t : Tid) (hst : s ≠ t) (c : Config) (hG : Good c.pool) (x : Nat)
    (hx : part x = .priv t) :
    (stepThread part s c).pool.objs x = c.pool.objs x ∧ view (stepThread part s c).pool x = view c.pool x :=
  (stepThread_frame part s c hG).2 x (not_writable_of_readable hst (readable_iff.mpr (Or.inr hx)))

/-- **every thread obtains the results it obtains when run alone** — for every partition of the objects, every number of
    threads, all programs (an operation breaking the ownership discipline is refused, identically in both runs) and
    **every schedule**: the sequence of observations of thread `t` (how each of its operations ended, what each const call
    handed back, the values of all its own objects after each step) is the one it makes when the other threads never run. -/
theorem schedule_independent (part : Part) (t : Tid) (sched : List Tid) (c : Config) (hG : Good c.pool) :
    (run part sched c).trace t = (run part (alone t sched) c).trace t :=
  (run_related ⟨hG, hG, fun _ _ => rfl, rfl, rfl⟩ sched).trace

/-- the same statement about the final state: everything thread `t` may read — the shared objects and its own — reports
    the same values after the concurrent run and after the run alone, and `t` has the same program left. -/
theorem schedule_independent_views (part : Part) (t : Tid) (sched : List Tid) (c : Config) (hG : Good c.pool) (x : Nat)
    (hx : part x = .shared ∨ part x = .priv t) :
    view (run part sched c).pool x = view (run part (alone t sched) c).pool x ∧
    (run part sched c).progs t = (run part (alone t sched) c).progs t := by
  have h := run_related (part := part) (t := t) ⟨hG, hG, fun _ _ => rfl, rfl, rfl⟩ sched
  exact ⟨h.agree x (readable_iff.mpr hx), h.progs⟩

/-- no operation of any schedule ends in a memory fault of the machine (bad free, double free, use after free, out of bounds) -/
theorem never_faults (part : Part) (s : Tid) (p : Pool) (top : TOp) (hG : Good p) (f : Fault) :
    (execOp part s p top).2.ending ≠ .faulted f := by
  unfold execOp
  by_cases ha : top.admissible part s p = true
  · rw [if_pos ha]
    simp only [TOp.admissible, Bool.and_eq_true] at ha
    rcases sop_spec hG.1 hG.2.2 hG.2.1 (top.toSOp p) (preB_sound ha.2) with ⟨p', h1, _⟩ | ⟨e, p', h1, _⟩ <;> rw [h1] <;> simp
  · rw [if_neg ha]; simp

/-- **C20 on the model, with its premise**: the source inventory shows no mutable static storage and no call outside the
    MT-Safe allow-list (so the pool really is all the state the operations share), and then — for every partition,
    every thread, every schedule from every good configuration — the thread's observations are those of its run alone
    and every shared object is bit-identical afterwards.  (The two inventory conjuncts are `decide` over the regenerated
    lists: when the source grows a mutable static this theorem, and with it the check, stops holding.) -/
theorem no_locking_needed :
    (∀ v ∈ Generated.statics, v.isConst = true ∨ v.threadLocal = true) ∧ Generated.unsafeCalls = [] ∧
    ∀ (part : Part) (t : Tid) (sched : List Tid) (c : Config), Good c.pool →
      (run part sched c).trace t = (run part (alone t sched) c).trace t ∧
      ∀ x, part x = .shared → (run part sched c).pool.objs x = c.pool.objs x ∧ view (run part sched c).pool x = view c.pool x :=
  ⟨statics_immutable.2, unsafe_calls_empty, fun part t sched c hG =>
    ⟨schedule_independent part t sched c hG, fun x hx => shared_unchanged part sched c hG x hx⟩⟩

/-- running alone *is* a schedule (the one in which only `t` is ever picked), and it is its own restriction -/
theorem alone_is_a_schedule (t : Tid) (sched : List Tid) : alone t (alone t sched) = alone t sched := by
  simp [alone, List.filter_filter]

/-- every state reached by a sequential history of C04 (in particular the empty pool, and any pool in which shared
    strings have been constructed before the threads start) is a good initial pool -/
theorem initial_good {L : Nat} (hL : 0 < L) {p : Pool} (h : SReach L p) : Good p := sreach_inv hL h

/-- concrete instance: two threads over the empty pool (small-string limit 16); thread 0 owns the even ids, thread 1 the
    odd ones.  Thread 0 constructs "ab" in object 0 and upper-cases it into object 2 (a const call whose value function
    is given), thread 1 constructs "xyz" in object 1.  Both operations of thread 0 are admitted and complete under the
    schedule [1, 0, 0] — the theorem's conclusion is about real, completed steps. -/
example :
    let part : Part := fun x => if x % 2 = 0 then .priv 0 else .priv 1
    let up : List (Option View) → CRes := fun vs => .values [(unitsOf (vs.headD none)).map (fun u => if 97 ≤ u ∧ u ≤ 122 then u - 32 else u)]
    let c : Config := { pool := Pool.init 16,
                        progs := fun t => if t = 0 then [.mutate (.ctorText 0 [97, 98] .checkValidity), .const [0] [2] up]
                                          else if t = 1 then [.mutate (.ctorText 1 [120, 121, 122] .checkValidity)] else [],
                        trace := fun _ => [] }
    ((run part [1, 0, 0] c).trace 0).map (·.ending) = [.completed, .completed] ∧
    view (run part [1, 0, 0] c).pool 2 = some (2, [65, 66]) ∧ view (run part [1, 0, 0] c).pool 1 = some (3, [120, 121, 122]) := by
  decide +kernel

end StVerif.Props.C20
