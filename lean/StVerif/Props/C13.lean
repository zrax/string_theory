/-
  C13 — floating-point text equals the C library rendering for every value and precision.
  What is proved is the library's own glue; the C library's rendering (`render`) and parsing (`parse`)
  are parameters, exactly as the property defines the text as "what printf / strtod give".
-/
import StVerif.Model.Float
import StVerif.Spec.FloatText
import StVerif.Lemmas.Num

namespace StVerif.Props.C13
open StVerif.Float StVerif.Num StVerif.Spec.Digits StVerif.Spec.FloatText StVerif.Lemmas.Digits StVerif.Lemmas.Num

/-- the notation a `float_class` value stands for -/
def notationOf : FloatClass → Notation
  | .dflt => .dflt | .fixed => .fixed | .exp => .exp | .expUpper => .expUpper

/-- the precision the field asks for: any negative `int` means "none" -/
def precisionOf (sp : FSpec) : Option Nat := if sp.precision ≥ 0 then some sp.precision.toNat else none

/-- `format.precision` is an `int` -/
def IntPrecision (sp : FSpec) : Prop := -(2 ^ 31 : Int) ≤ sp.precision ∧ sp.precision < (2 ^ 31 : Int)

theorem precision_text_short (p : Nat) (hp : p < 2 ^ 32) : (natText 10 false p).length ≤ 10 := by
  unfold natText
  rw [List.length_map]
  exact digits_length_le 10 (by omega) 10 p (by omega) (by omega)

theorem IntPrecision.lt {sp : FSpec} (hp : IntPrecision sp) : sp.precision < 2 ^ 32 ∧ sp.precision.toNat < 2 ^ 32 := by
  unfold IntPrecision at hp
  omega

theorem letterOf_eq (c : FloatClass) : letterOf c = letter (notationOf c) := by cases c <;> rfl

/-- `fmt_assembled` and `fmt_fits` from one walk through the assembly: the lengths that pass its checks are
    the lengths that bound the result -/
theorem fmt_assembled_short (sp : FSpec) (hp : IntPrecision sp) :
    assembleFormat sp = .ok (printfFormat sp.alwaysSigned (precisionOf sp) (notationOf sp.floatClass)) ∧
      (printfFormat sp.alwaysSigned (precisionOf sp) (notationOf sp.floatClass)).length + 1 ≤ 15 := by
  unfold assembleFormat printfFormat precisionOf FORMAT_BUFFER
  dsimp only
  generalize hb : (if sp.alwaysSigned = true then [37] ++ [43] else [37]) = buf
  have hpre : [37] ++ (if sp.alwaysSigned then [43] else []) = buf := by rw [← hb]; cases sp.alwaysSigned <;> rfl
  have hbl : buf.length ≤ 2 := by rw [← hb]; cases sp.alwaysSigned <;> decide
  rw [hpre, letterOf_eq]
  by_cases hge : sp.precision ≥ 0
  · have hlen := precision_text_short _ hp.lt.2
    have hpos := List.length_pos_iff.mpr (natText_ne_nil 10 false sp.precision.toNat)
    rw [if_pos hge, if_pos hge, wrapW_of_nonneg hge hp.lt.1,
      uintFormat_eq (radix := 10) (by decide) (by decide) hp.lt.2 (map_digitCharCode (by decide) (by decide) false _),
      Outcome.ok_bind', copy_mk (Nat.le_trans hlen (by decide)), size_mk (Nat.le_trans hlen (by decide))]
    dsimp only
    generalize natText 10 false sp.precision.toNat = ds at hlen hpos ⊢
    simp only [List.length_append, List.length_cons, List.length_nil]
    rw [if_neg (by omega), if_neg (by omega), Outcome.pure_eq_ok, Outcome.ok_bind']
    simp only [List.length_append, List.length_cons, List.length_nil]
    rw [if_neg (by omega), List.append_assoc buf]
    exact ⟨rfl, by omega⟩
  · rw [if_neg hge, if_neg hge, Outcome.pure_eq_ok, Outcome.ok_bind', List.append_nil, List.length_append,
      List.length_singleton, if_neg (by omega)]
    exact ⟨rfl, by omega⟩

/-- The printf format the library assembles in its 32-byte buffer is exactly the corresponding
    conversion: `%`, `+` if a sign is always wanted, `.` and the precision in decimal if one is given,
    then g / f / e / E — for every `int` precision; no store leaves the buffer and the assertion holds. -/
theorem fmt_assembled (sp : FSpec) (hp : IntPrecision sp) :
    assembleFormat sp = .ok (printfFormat sp.alwaysSigned (precisionOf sp) (notationOf sp.floatClass)) :=
  (fmt_assembled_short sp hp).1

/-- the assembled format, with its terminator, fits the 32-byte buffer for every `int` precision
    (it needs at most 15 bytes) -/
theorem fmt_fits (sp : FSpec) (hp : IntPrecision sp) :
    ∃ fmt, assembleFormat sp = .ok fmt ∧ fmt.length + 1 ≤ 15 ∧ fmt.length + 1 ≤ FORMAT_BUFFER :=
  have h := fmt_assembled_short sp hp
  ⟨_, h.1, h.2, Nat.le_trans h.2 (by decide)⟩

/-- the rendering step returns libc's complete text whatever its length: below 64 characters from the
    stack buffer, otherwise from the heap buffer of the reported size — never truncated, never an
    assertion, never a read or write outside a buffer -/
theorem renderText_eq (render : Render) (fmt : List Nat) (bits : Nat) (hne : render fmt bits ≠ []) :
    renderText render fmt bits = .ok (render fmt bits) := by
  unfold renderText snprintfInto OUT_BUFFER
  dsimp only
  rw [if_neg (not_not_intro (List.length_pos_iff.mpr hne))]
  by_cases h : (render fmt bits).length ≥ 64
  · rw [if_pos h, Nat.add_sub_cancel, List.take_length, if_neg (Nat.lt_irrefl _), List.take_length]
  · rw [if_neg h, List.take_of_length_le (by omega), if_neg (Nat.lt_irrefl _), List.take_length]

/-- the padding step of `format_type(double)` (an `int` comparison, then one of two `append`s) is `padTo` -/
theorem pad_eq (minLen : Int) (left : Prop) [Decidable left] (pad : Nat) (text : List Nat) :
    (if minLen > (text.length : Int) then
      (if left then (pure (text ++ List.replicate (minLen - (text.length : Int)).toNat pad) : Outcome (List Nat))
       else pure (List.replicate (minLen - (text.length : Int)).toNat pad ++ text))
     else pure text) = .ok (padTo minLen.toNat (decide left) pad text) := by
  unfold padTo
  rw [← Int.toNat_sub', apply_ite Outcome.ok]
  simp only [decide_eq_true_eq]
  by_cases hm : minLen > text.length
  · rw [if_pos hm]
    rfl
  · rw [if_neg hm, Int.toNat_of_nonpos (by omega), List.replicate_zero, List.append_nil, List.nil_append, ite_self]
    rfl

/-- `ST::format` of a `double`: libc's rendering of the corresponding conversion, padded to the field
    width on the left (right-aligned) unless `<` was given, however long the rendering is.
    `hne` is the one fact assumed of libc: a floating-point conversion produces at least one character. -/
theorem format_eq_padded_render (render : Render) (sp : FSpec) (hp : IntPrecision sp) (bits : Nat)
    (hne : render (printfFormat sp.alwaysSigned (precisionOf sp) (notationOf sp.floatClass)) bits ≠ []) :
    formatDouble render sp bits =
      .ok (padTo sp.minimumLength.toNat (sp.alignment = .left) (if sp.pad = 0 then 32 else sp.pad)
            (render (printfFormat sp.alwaysSigned (precisionOf sp) (notationOf sp.floatClass)) bits)) := by
  unfold formatDouble
  rw [fmt_assembled sp hp, Outcome.ok_bind', renderText_eq render _ bits hne, Outcome.ok_bind', ite_not]
  exact pad_eq _ _ _ _

/-- a `float` argument is rendered as its exact `double` value -/
theorem format_float_eq (render : Render) (promote : Nat → Nat) (sp : FSpec) (bits32 : Nat) :
    formatFloat render promote sp bits32 = formatDouble render sp (promote bits32) := rfl

/-- `from_double(value, c)`: libc's rendering of `%c` for the six letters printf knows, `bad_format` for any
    other letter -/
theorem from_double_eq_render (render : Render) (bits : Nat) (c : Nat) :
    (c ∈ [101, 102, 103, 69, 70, 71] → render [37, c] bits ≠ [] → fromDouble render bits c = .ok (render [37, c] bits)) ∧
    (c ∉ [101, 102, 103, 69, 70, 71] → fromDouble render bits c = .throw .badFormat) := by
  unfold fromDouble floatFormatter
  refine ⟨fun hc hne => ?_, fun hc => ?_⟩
  · rw [if_neg (not_not_intro (List.contains_iff_mem.mpr hc))]
    exact renderText_eq render _ bits hne
  · rw [if_pos (mt List.contains_iff_mem.mp hc)]

theorem from_float_eq (render : Render) (promote : Nat → Nat) (bits32 : Nat) (c : Nat) :
    fromFloat render promote bits32 c = fromDouble render (promote bits32) c := rfl

/-- `string_stream << double` is libc's `%g`: `from_double` with its default letter -/
theorem stream_eq_render (render : Render) (bits : Nat) (hne : render [37, 103] bits ≠ []) :
    streamDouble render bits = .ok (render [37, 103] bits) ∧ streamDouble render bits = fromDouble render bits 103 := by
  refine ⟨?_, rfl⟩
  exact (from_double_eq_render render bits 103).1 (by decide) hne

theorem stream_float_eq (render : Render) (promote : Nat → Nat) (bits32 : Nat) :
    streamFloat render promote bits32 = streamDouble render (promote bits32) := rfl

/-- no value, notation, sign flag, width or precision makes floating-point formatting abort or leave a
    buffer: every route returns a string (or `bad_format` for a letter printf does not know) -/
theorem no_abort (render : Render) (hlibc : ∀ fmt bits, render fmt bits ≠ []) (sp : FSpec) (hp : IntPrecision sp) (bits c : Nat) :
    (formatDouble render sp bits).isOk = true ∧
    ((fromDouble render bits c).isOk = true ∨ fromDouble render bits c = .throw .badFormat) ∧
    (streamDouble render bits).isOk = true := by
  refine ⟨?_, ?_, ?_⟩
  · rw [format_eq_padded_render render sp hp bits (hlibc _ _)]; rfl
  · by_cases hc : c ∈ [101, 102, 103, 69, 70, 71]
    · left; rw [(from_double_eq_render render bits c).1 hc (hlibc _ _)]; rfl
    · right; exact (from_double_eq_render render bits c).2 hc
  · rw [(stream_eq_render render bits (hlibc _ _)).1]; rfl

/-- `to_double` / `to_float`: the value is what strtod / strtof return on the C string; `ok` ⇔ at least
    one character was consumed, `full_match` ⇔ all were; the empty string is a full match without `ok` -/
theorem to_double_flags (parse : List Nat → Nat × Nat) (s : List Nat) :
    (s = [] → toFloatingR parse s = (0, { ok := false, fullMatch := true })) ∧
    (s ≠ [] → toFloatingR parse s = ((parse (cstr s)).1, { ok := decide ((parse (cstr s)).2 ≠ 0), fullMatch := decide ((parse (cstr s)).2 = s.length) })) ∧
    toFloating parse s = (parse (cstr s)).1 := by
  refine ⟨fun h => by subst h; rfl, fun h => ?_, rfl⟩
  cases s with
  | nil => exact absurd rfl h
  | cons a t => rfl

/-! The pinned tree (before the repair "fix: floating-point renderings of 64 or more characters no longer abort")
    violated `no_abort`: a rendering of 64 or more characters — `%f` of 1e100 has 108 — tripped the assertion. -/

/-- witness of defect #13 in `ST::format("{f}", 1e100)` (any 108-character rendering) -/
theorem pinned_format_abort_witness :
    Pinned.formatDouble (fun _ _ => List.replicate 108 48) { floatClass := .fixed } 0x54b249ad2594c37d
      = .assertFail "Format buffer too small" := by rfl

/-- witness of defect #13 in `ST::string::from_double(1e100, 'f')` -/
theorem pinned_from_double_abort_witness :
    Pinned.floatFormatter (fun _ _ => List.replicate 108 48) 0x54b249ad2594c37d 102 = .assertFail "Format buffer too small" := by rfl

/-- what the pinned tree did satisfy: its rendering step (`snprintf` into the 64-byte buffer, then the assertion)
    returns libc's complete text when that is shorter than 64 characters — `renderText_eq` under that hypothesis -/
theorem pinned_format_eq_padded_render_partial (render : Render) (fmt : List Nat) (bits : Nat)
    (hne : render fmt bits ≠ []) (hlt : (render fmt bits).length < 64) :
    Pinned.renderInto64 render fmt bits = .ok (render fmt bits) := by
  unfold Pinned.renderInto64 OUT_BUFFER
  rw [if_neg (not_not_intro (List.length_pos_iff.mpr hne)), if_neg (not_not_intro hlt)]

/-! non-vacuity: the repaired model on the inputs that used to abort -/
example : formatDouble (fun _ _ => List.replicate 108 48) { floatClass := .fixed } 0 = .ok (List.replicate 108 48) := by decide +kernel
example : formatDouble (fun _ _ => [49, 46, 53]) { minimumLength := 6, pad := 42 } 0 = .ok [42, 42, 42, 49, 46, 53] := by decide +kernel
example : assembleFormat { precision := 2147483647, alwaysSigned := true, floatClass := .expUpper }
    = .ok [37, 43, 46, 50, 49, 52, 55, 52, 56, 51, 54, 52, 55, 69] := by decide +kernel

end StVerif.Props.C13
