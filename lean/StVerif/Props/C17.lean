/-
  C17 — all output sinks emit the same bytes for the same format call; stream insertion and
  extraction of `ST::string`.

  A format call delivers one event list (`Fmt.run`, C10/C11) to whichever sink it is driven into;
  the sinks are the interpreters of Model/Sinks.lean; the Spec is `flatten` (the bytes the call
  amounts to) and the reference transcodings of Spec/Unicode.lean.

  Narrow sinks and Latin-1 need nothing of the chunks (only that the events hold bytes,
  `EventsBytes`).  The wide sinks transcode **per `append` call** (chunk by chunk, not the format
  call as a whole): the theorem needs `chunkSafe` (every appended chunk is a whole number of UTF-8
  sequences, every character written through `append_char` is ASCII); outside it the property is
  false of the code, by the two witnesses below (recorded findings, see known_findings.json) —
  the theorem keeps the suffix `_partial`.
-/
import StVerif.Lemmas.Sinks
import StVerif.Lemmas.SinksChunk
import StVerif.Props.C01
import StVerif.Props.C11

namespace StVerif.Props.C17
open StVerif.Fmt StVerif.Utf StVerif.Sinks StVerif.Generated
open StVerif.Spec.Unicode
open StVerif.Lemmas.Sinks StVerif.Lemmas.Utf StVerif.Lemmas.Utf8Split StVerif.Lemmas.Fmt

/-- **FILE* sink = narrow ostream sink = the bytes of the call = what the string sink collects**,
    for every event list of bytes (`EventsBytes`); and `ST::format` returns those bytes passed
    through the validation (`set` of the collected bytes) -/
theorem narrow_sinks_equal (ev : List Event) (hb : EventsBytes ev) :
    fileSink ev = flatten ev ∧ ostreamSink ev = flatten ev ∧ streamBytes ev = flatten ev ∧
    ∀ m, stringSink (.utf8 m) ev = stringSetUtf8 m (some (flatten ev)) := by
  refine ⟨fileSink_eq ev hb, ostreamSink_eq ev hb, streamBytes_eq ev, fun m => ?_⟩
  unfold stringSink toStringOf
  rw [streamBytes_eq]

/-- in particular: whenever `ST::format` (default `check_validity`, or `assume_valid`) returns a
    string, its bytes are exactly the bytes in the file and in the narrow stream -/
theorem format_bytes_eq_narrow (m : Mode) (hm : m ≠ .substituteInvalid) (ev : List Event) (hb : EventsBytes ev) (out : List Nat)
    (h : stringSink (.utf8 m) ev = .ok out) : out = fileSink ev ∧ out = ostreamSink ev := by
  obtain ⟨h1, h2, _, h4⟩ := narrow_sinks_equal ev hb
  rw [h4 m] at h
  rw [h1, h2]
  -- `set` stores the bytes as they are unless it repairs them
  have : out = flatten ev := by
    replace h := Outcome.of_ite_assert h
    cases m with
    | substituteInvalid => exact absurd rfl hm
    | assumeValid => cases h; rfl
    | checkValidity =>
      simp only at h
      split at h <;> cases h
      rfl
  exact ⟨this, this⟩

/-- whole calls: `ST::printf(FILE*, …)` and `ST::writef(std::ostream&, …)` leave the same bytes,
    namely the bytes of the events of the call (`flatten`, which C11 equates with the specified
    rendering), and fail alike -/
theorem printf_eq_writef (fmt : Option (List Nat)) (args : List Arg) (hev : ∀ ev, run fmt args = .ok ev → EventsBytes ev) :
    runPrintf fmt args = runWritef fmt args ∧ runPrintf fmt args = (run fmt args).map flatten := by
  unfold runPrintf runWritef
  cases h : run fmt args with
  | ok ev => simp only [Outcome.map, fileSink_eq ev (hev ev h), ostreamSink_eq ev (hev ev h), and_self]
  | _ => exact ⟨rfl, rfl⟩

/-- **`ST::format_latin_1` returns the UTF-8 transcoding of the narrow sinks' bytes read as
    Latin-1**, for a call of fewer than 2^28 bytes: every byte `b` becomes the standard UTF-8
    encoding of U+00`b` -/
theorem latin1_sink_eq (ev : List Event) (hb : EventsBytes ev) (hl : (flatten ev).length < hugeBufferSize) :
    stringSink .latin1 ev = .ok (stdEnc .utf8 (flatten ev)) ∧
    stringSink .latin1 ev = reference .latin1 .utf8 .assumeValid true (fileSink ev) := by
  have hbytes := eventsBytes_flatten ev hb
  have h1 : stringSink .latin1 ev = convert .latin1 .utf8 .assumeValid true (some (flatten ev)) := by
    unfold stringSink toStringOf; rw [streamBytes_eq]
  have hs : ∀ c ∈ flatten ev, Scalar c := fun c hc => scalar_of_byte (hbytes c hc)
  constructor
  · rw [h1, Lemmas.Utf.convert_eq_reference .latin1 .utf8 (by decide) _ _ _ hbytes hl]
    exact reference_std .latin1 .utf8 (by decide) .assumeValid true _ hs
  · rw [h1, fileSink_eq ev hb]
    exact Lemmas.Utf.convert_eq_reference .latin1 .utf8 (by decide) _ _ _ hbytes hl

/-- **transcoding distributes over concatenation at sequence boundaries** (a whole number of
    sequences in front never changes the segmentation of the rest, `segUtf8_append_valid`): behind
    a whole number of UTF-8 sequences the rest is transcoded as if it stood alone; the first
    failure wins -/
theorem transcode_append (dst : Enc) (m : Mode) (subst : Bool) (x y : List Nat) (hv : validateUtf8 x = 0) (hb : Bytes x) :
    reference .utf8 dst m subst (x ++ y) =
      (reference .utf8 dst m subst x).bind fun a => (reference .utf8 dst m subst y).map fun b => a ++ b :=
  reference_append dst m subst x y (valid_of_validate x hv) hb

/-- **a wide stream receives the UTF-16 / UTF-32 transcoding of the bytes of the call** (the
    reference transcoding under the default validation — it fails exactly when the reference
    fails), for `T ∈ {UTF-16 (char16_t), UTF-32 (wchar_t, char32_t)}`.

    Partial: needs `chunkSafe ev`.  Without it the statement is false of the code — see
    `wide_pad_witness` and `wide_cut_witness`. -/
theorem wide_sink_eq_partial (T : Enc) (hT : T = .utf16 ∨ T = .utf32) (m : Mode) (ev : List Event)
    (hb : EventsBytes ev) (hs : chunkSafe ev = true) (hl : (flatten ev).length < hugeBufferSize) :
    wideSink T m ev = reference .utf8 T m true (flatten ev) := by
  rw [wideSink, wideSinkFrom_eq T hT m ev [] hb hs hl]
  cases reference .utf8 T m true (flatten ev) <;> rfl

/-- whole call, in the property's words: when `ST::format` (default validation `check_validity`)
    returns `out`, a chunk-safe call writes the UTF-16/32 transcoding of `out` to the wide stream -/
theorem writef_wide_eq_partial (T : Enc) (hT : T = .utf16 ∨ T = .utf32) (fmt : Option (List Nat)) (args : List Arg)
    (ev : List Event) (hr : run fmt args = .ok ev) (hb : EventsBytes ev) (hs : chunkSafe ev = true) (out : List Nat)
    (hf : runFormatSink (.utf8 .checkValidity) fmt args = .ok out) (hl : out.length < hugeBufferSize) :
    runWritefWide T .checkValidity fmt args = reference .utf8 T .checkValidity true out := by
  rw [runFormatSink, hr, Outcome.ok_bind] at hf
  have hout := (format_bytes_eq_narrow .checkValidity (by decide) ev hb out hf).1
  rw [fileSink_eq ev hb] at hout
  subst hout
  rw [runWritefWide, hr, Outcome.ok_bind]
  exact wide_sink_eq_partial T hT _ ev hb hs hl

/-- **the hypothesis of the wide-sink theorem is met whenever literal text and string arguments
    are valid UTF-8, no precision cuts inside a character, and pad characters are ASCII**, stated
    over the model of the whole call (`Fmt.run`: scanner, field parser, `format_type` overloads):

    * the format string is well-formed UTF-8 (`validate_utf8` accepts it);
    * for every spec `parse_format` yields at any position of it (reached by the call or not), the
      pad character is ASCII and every argument is `ArgSafe` under that spec: a string cut to the
      precision ends at a character boundary, a `char8_t` printed with class `c` is ASCII, libc's
      floating-point text is ASCII (integers, the other character types, booleans and null
      strings always qualify).

    Proof: the literal scanner cuts the format string only at braces and at its end, a field ends
    behind its closing brace, and well-formed text can be cut at any ASCII byte. -/
theorem chunkSafe_of_ascii_pad_and_valid_args (fmt : List Nat) (args : List Arg) (ev : List Event)
    (hrun : run (some fmt) args = .ok ev) (hlit : validateUtf8 fmt = 0)
    (hfields : ∀ p spec p', parseFormat fmt p = .ok (spec, p') → padOf spec < 0x80 ∧ ∀ a ∈ args, ArgSafe spec a) :
    chunkSafe ev = true := by
  unfold run runEvents at hrun
  refine applyFormat_safe fmt args.length (formattersOf args) ?_ (valid_of_validate fmt hlit) ev hrun
  intro p spec p' hpf id hid ev' hev
  obtain ⟨hpad, hargs⟩ := hfields p spec p' hpf
  have hget : args[id]? = some args[id] := List.getElem?_eq_getElem hid
  rw [formattersOf_some hget] at hev
  exact formatType_safe _ spec hpad (hargs _ (List.getElem_mem hid)) ev' hev

/-- "no precision cuts inside a character" in the vocabulary of C11's Spec: the text `format_string`
    appends is the natural rendering `naturalText` (the argument cut to the precision) -/
theorem argSafe_str_iff_natural (f : FormatSpec) (hf : f.precision < 2 ^ 64) (bs : List Nat) :
    ArgSafe f (.str bs) ↔ validateUtf8 (C11.naturalText f bs) = 0 := by
  have : bs.take (cutSize f bs.length) = C11.naturalText f bs := take_cut f hf bs
  show Valid (bs.take _) ↔ _
  rw [this]
  exact valid_iff _

/-- the two theorems together: for such a call every wide stream receives the UTF-16/32
    transcoding of the bytes of the call -/
theorem writef_wide_eq_of_valid_inputs (T : Enc) (hT : T = .utf16 ∨ T = .utf32) (m : Mode) (fmt : List Nat) (args : List Arg)
    (ev : List Event) (hrun : run (some fmt) args = .ok ev) (hb : EventsBytes ev) (hl : (flatten ev).length < hugeBufferSize)
    (hlit : validateUtf8 fmt = 0)
    (hfields : ∀ p spec p', parseFormat fmt p = .ok (spec, p') → padOf spec < 0x80 ∧ ∀ a ∈ args, ArgSafe spec a) :
    runWritefWide T m (some fmt) args = reference .utf8 T m true (flatten ev) := by
  rw [runWritefWide, hrun, Outcome.ok_bind]
  exact wide_sink_eq_partial T hT m ev hb (chunkSafe_of_ascii_pad_and_valid_args fmt args ev hrun hlit hfields) hl

/-- `"{_\xC3>1}{_\xA9>1}"` -/
def padWitnessFmt : List Nat := [123, 95, 0xC3, 62, 49, 125, 123, 95, 0xA9, 62, 49, 125]
/-- `"{.1}\xA9"` -/
def cutWitnessFmt : List Nat := [123, 46, 49, 125, 0xA9]

/-- `ST::writef(std::wostream&, "{_\xC3>1}{_\xA9>1}", "", "")`: the two pad bytes are widened one
    by one with sign extension (FFFFFFC3 FFFFFFA9; FFC3 FFA9 on a `char16_t` stream), while
    `ST::format` returns "é" whose transcoding is U+00E9; the narrow sinks agree with `ST::format` -/
theorem wide_pad_witness :
    run (some padWitnessFmt) [.str [], .str []] = .ok [.appendChar 0xC3 1, .append [], .appendChar 0xA9 1, .append []] ∧
    runWritefWide .utf32 .checkValidity (some padWitnessFmt) [.str [], .str []] = .ok [0xFFFFFFC3, 0xFFFFFFA9] ∧
    runWritefWide .utf16 .checkValidity (some padWitnessFmt) [.str [], .str []] = .ok [0xFFC3, 0xFFA9] ∧
    runFormatSink (.utf8 .checkValidity) (some padWitnessFmt) [.str [], .str []] = .ok [0xC3, 0xA9] ∧
    runPrintf (some padWitnessFmt) [.str [], .str []] = .ok [0xC3, 0xA9] ∧
    reference .utf8 .utf32 .checkValidity true [0xC3, 0xA9] = .ok [0xE9] ∧
    reference .utf8 .utf16 .checkValidity true [0xC3, 0xA9] = .ok [0xE9] ∧
    chunkSafe [.appendChar 0xC3 1, .append [], .appendChar 0xA9 1, .append []] = false := by
  decide +kernel

/-- `ST::writef(std::wostream&, "{.1}\xA9", "\xC3\xA9")`: the precision cuts the argument inside
    its character, each fragment is transcoded on its own under `check_validity` and the call
    throws `unicode_error`, while `ST::format` returns "é" -/
theorem wide_cut_witness :
    run (some cutWitnessFmt) [.str [0xC3, 0xA9]] = .ok [.append [0xC3], .append [0xA9]] ∧
    runWritefWide .utf32 .checkValidity (some cutWitnessFmt) [.str [0xC3, 0xA9]] = .throw .unicodeError ∧
    runWritefWide .utf16 .checkValidity (some cutWitnessFmt) [.str [0xC3, 0xA9]] = .throw .unicodeError ∧
    runFormatSink (.utf8 .checkValidity) (some cutWitnessFmt) [.str [0xC3, 0xA9]] = .ok [0xC3, 0xA9] ∧
    runWritef (some cutWitnessFmt) [.str [0xC3, 0xA9]] = .ok [0xC3, 0xA9] ∧
    reference .utf8 .utf32 .checkValidity true [0xC3, 0xA9] = .ok [0xE9] ∧
    chunkSafe [.append [0xC3], .append [0xA9]] = false := by
  decide +kernel

/-- under `substitute_invalid` as the default the same call does not throw but writes one U+FFFD per
    fragment instead of U+00E9 -/
theorem wide_cut_witness_subst :
    runWritefWide .utf32 .substituteInvalid (some cutWitnessFmt) [.str [0xC3, 0xA9]] = .ok [0xFFFD, 0xFFFD] ∧
    runFormatSink (.utf8 .substituteInvalid) (some cutWitnessFmt) [.str [0xC3, 0xA9]] = .ok [0xC3, 0xA9] := by
  decide +kernel

/-- **`stream << st_string` hands the stream exactly the contents, transcoded to the stream's
    character type** (the reference transcoding of the stored UTF-8 under `assume_valid`, which is
    what `to_utf16 / to_utf32 / to_wchar` apply), laid out the way a `std::basic_string` insertion
    lays out those units (`width()`, `fill()`, adjustment); on a `char` stream the bytes themselves -/
theorem insert_eq (T : Enc) (sf : StreamFmt) (bytes : List Nat) (hb : Bytes bytes) (hl : bytes.length < hugeBufferSize) :
    (T = .utf8 → Sinks.insert T sf bytes = .ok (stdInsert sf bytes)) ∧
    (T ≠ .utf8 → Sinks.insert T sf bytes = (reference .utf8 T .assumeValid true bytes).map (stdInsert sf)) := by
  constructor
  · intro h; subst h; rfl
  · intro h
    have : toBuffer T bytes = reference .utf8 T .assumeValid true bytes := by
      rw [← Lemmas.Utf.convert_eq_reference .utf8 T (Ne.symm h) _ _ _ hb hl]
      cases T <;> first | rfl | exact absurd rfl h
    rw [Sinks.insert, this]

/-- with `width() == 0` (the default) nothing but the contents is written; a string holding the
    standard UTF-8 of a scalar sequence arrives as the standard UTF-16 / UTF-32 of that sequence -/
theorem insert_std (T : Enc) (hT : T = .utf8 ∨ T = .utf16 ∨ T = .utf32) (fill : Nat) (left : Bool) (s : List Nat)
    (hs : ∀ c ∈ s, Scalar c) (hl : (stdEnc .utf8 s).length < hugeBufferSize) :
    Sinks.insert T { width := 0, fill, left } (stdEnc .utf8 s) = .ok (stdEnc T s) := by
  have h0 : ∀ us : List Nat, stdInsert { width := 0, fill, left } us = us := by
    intro us; unfold stdInsert; cases left <;> simp
  unfold Sinks.insert toBuffer
  have := (C01.string_to_std T true s hs hl).1
  rcases hT with h | h | h <;> subst h
  · exact congrArg Outcome.ok (h0 _)
  · rw [this (by decide)]; exact congrArg Outcome.ok (h0 _)
  · rw [this (by decide)]; exact congrArg Outcome.ok (h0 _)

/-- **`stream >> st_string` stores the token a `std::basic_string` extraction takes, subject to
    the default validation**: the reference for building a string from that token (unchanged,
    repaired, or `unicode_error`), and the stream is left where the std extraction leaves it -/
theorem extract_eq (m : Mode) (input : List Nat) :
    (Bytes input → input.length < hugeBufferSize →
      extract .utf8 m input = (referenceString m (stdExtract input).1, (stdExtract input).2)) ∧
    (UnitsLt (2 ^ 32) input → input.length < hugeBufferSize →
      extract .utf32 m input = (reference .utf32 .utf8 m true (stdExtract input).1, (stdExtract input).2)) := by
  have hsub : ∀ x ∈ (stdExtract input).1, x ∈ input := by
    intro x hx
    unfold stdExtract at hx
    exact List.dropWhile_subset _ (List.takeWhile_subset _ hx)
  have hlen : (stdExtract input).1.length ≤ input.length := by
    unfold stdExtract
    exact Nat.le_trans (List.takeWhile_sublist _).length_le (List.dropWhile_sublist _).length_le
  constructor
  · intro hb hl
    unfold extract stringFrom
    simp only
    rw [stringSet_eq_reference m _ (fun x hx => hb x (hsub x hx)) (Nat.lt_of_le_of_lt hlen hl)]
  · intro hu hl
    unfold extract stringFrom
    simp only
    rw [Lemmas.Utf.convert_eq_reference .utf32 .utf8 (by decide) m true _ (fun x hx => hu x (hsub x hx))
      (Nat.lt_of_le_of_lt hlen hl)]

example : EventsBytes [.appendChar 42 3, .append [0xC3, 0xA9], .append [104, 105]] := by
  intro e he; simp at he; rcases he with rfl | rfl | rfl <;> decide
example : chunkSafe [.appendChar 42 3, .append [0xC3, 0xA9], .append [104, 105], .appendChar 0xC3 0] = true := by decide
example : wideSink .utf16 .checkValidity [.appendChar 42 3, .append [0xF0, 0x9F, 0x98, 0x80]] = .ok [42, 42, 42, 0xD83D, 0xDE00] := by decide
example : ArgSafe { precision := 3 } (.str [0x68, 0xC3, 0xA9, 0x6C]) := valid_of_validate _ (by decide)
example : ¬ ArgSafe { precision := 2 } (.str [0x68, 0xC3, 0xA9, 0x6C]) := fun h => absurd (validate_of_valid _ h) (by decide)
example : stdExtract [32, 9, 104, 105, 32, 120] = ([104, 105], [32, 120]) := by decide
example : Sinks.insert .utf32 { width := 4, fill := 42, left := true } [0xC3, 0xA9, 0x61] = .ok [0xE9, 0x61, 42, 42] := by decide

/-- "é{>3}|" with the argument "é": the hypotheses of `chunkSafe_of_ascii_pad_and_valid_args` hold -/
example : chunkSafe [.append [0xC3, 0xA9], .appendChar 32 1, .append [0xC3, 0xA9], .append [124]] = true := by
  refine chunkSafe_of_ascii_pad_and_valid_args [0xC3, 0xA9, 123, 62, 51, 125, 124] [.str [0xC3, 0xA9]] _ (by decide +kernel)
    (by decide) ?_
  intro p spec p' h
  have h123 := rd_of_parseFormat h
  -- only index 2 holds a '{'
  obtain rfl : p = 2 := (by decide +kernel : ∀ p ≤ 7, rd _ p = some 123 → p = 2) p (le_of_rd_some h123) h123
  cases h.symm.trans (by decide +kernel : parseFormat _ 2 = .ok ({ alignment := .right, minimumLength := 3 }, 6))
  refine ⟨by decide, ?_⟩
  intro a ha
  simp at ha; subst ha
  exact valid_of_validate _ (by decide)

end StVerif.Props.C17
