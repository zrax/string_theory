/-
  C02 — validation modes accept, reject and repair malformed input correctly.
  Most property theorems are a statement about the reference (per segment: `refStep_check_none_iff`,
  `refStep_subst`) carried over to the code by the refinement `convert_eq_reference`;
  `tolerated_same_decision` and `isolation_utf8` are about the reference alone (`refStep`, `segUtf8`).
  `seg` / `wellFormedByDesign` / `reference` are the declarative notions of Spec/Unicode.lean;
  `convert` / `stringSetUtf8` are the model of the code.
-/
import StVerif.Lemmas.UtfString

namespace StVerif.Props.C02
open StVerif.Utf StVerif.Generated StVerif.Lemmas.Utf
open StVerif.Spec.Unicode

/-- **Refinement.**  Every conversion function computes the reference transcoding of its input under
    the requested mode: accept/reject and every output unit, for arbitrary units. -/
theorem convert_eq_reference (src dst : Enc) (hne : src ≠ dst) (m : Mode) (subst : Bool) (xs : List Nat)
    (hu : UnitsLt (unitBound src) xs) (hlen : xs.length < hugeBufferSize) :
    convert src dst m subst (some xs) = reference src dst m subst xs :=
  Lemmas.Utf.convert_eq_reference src dst hne m subst xs hu hlen

/-- the same for building an `ST::string` from UTF-8 bytes -/
theorem string_eq_reference (m : Mode) (xs : List Nat) (hb : Bytes xs) (hlen : xs.length < hugeBufferSize) :
    stringSetUtf8 m (some xs) = referenceString m xs :=
  stringSet_eq_reference m xs hb hlen

/-- can the target hold the decoded value? (UTF-16 stops at 10FFFF; Latin-1 at FF unless
    out-of-range substitution is on) -/
def Representable (dst : Enc) (subst : Bool) (v : Nat) : Bool :=
  match dst with
  | .utf16 => decide (v ≤ 0x10FFFF)
  | .latin1 => decide (v < 0x100) || subst
  | _ => true

/-- a segment the conversion has to refuse under `check_validity` -/
def Refused (dst : Enc) (subst : Bool) : Seg → Bool
  | .bad _ => true
  | .good v _ => !Representable dst subst v

theorem refStep_check_none_iff (src dst : Enc) (subst : Bool) (sg : Seg) :
    refStep src dst .checkValidity subst sg = none ↔ Refused dst subst sg = true := by
  cases sg with
  | bad u => simp [refStep, Refused]
  | good v us =>
    cases dst with
    | latin1 => by_cases hv : v < 0x100 <;> cases subst <;> simp [refStep, Refused, Representable, hv]
    | _ => simp [refStep, Refused, Representable]

theorem refSteps_check_none_iff (src dst : Enc) (subst : Bool) (sgs : List Seg) :
    refSteps src dst .checkValidity subst sgs = none ↔ sgs.any (Refused dst subst) = true := by
  rw [refSteps_none_iff, List.any_eq_true]
  exact exists_congr fun sg => and_congr_right fun _ => refStep_check_none_iff src dst subst sg

/-- `check_validity` throws `unicode_error` exactly when some unit cannot be part of a sequence
    where it stands (tolerated forms counting as sequences) or a decoded value does not fit the
    target; otherwise it succeeds. -/
theorem check_throws_iff (src dst : Enc) (hne : src ≠ dst) (subst : Bool) (xs : List Nat)
    (hu : UnitsLt (unitBound src) xs) (hlen : xs.length < hugeBufferSize) :
    (convert src dst .checkValidity subst (some xs) = .throw .unicodeError ↔ (seg src xs).any (Refused dst subst) = true) ∧
    ((seg src xs).any (Refused dst subst) = false → ∃ out, convert src dst .checkValidity subst (some xs) = .ok out) := by
  rw [convert_eq_reference src dst hne _ subst xs hu hlen, reference_throw_iff, refSteps_check_none_iff]
  refine ⟨Iff.rfl, fun hf => (reference_ok_or_throw ..).resolve_right fun ht => ?_⟩
  rw [reference_throw_iff, refSteps_check_none_iff, hf] at ht
  cases ht

/-- when the target can hold every value (UTF-8, UTF-32/wchar_t, or Latin-1 with substitution) this is
    exactly "not well-formed by design" -/
theorem check_throws_iff_malformed (src dst : Enc) (hne : src ≠ dst) (subst : Bool) (xs : List Nat)
    (hd : dst = .utf8 ∨ dst = .utf32 ∨ (dst = .latin1 ∧ subst = true))
    (hu : UnitsLt (unitBound src) xs) (hlen : xs.length < hugeBufferSize) :
    convert src dst .checkValidity subst (some xs) = .throw .unicodeError ↔ wellFormedByDesign src xs = false := by
  have : Refused dst subst = fun sg => !Seg.isGood sg := by
    funext sg
    cases sg with
    | bad u => rfl
    | good v us => rcases hd with h | h | ⟨h, h'⟩ <;> subst h <;> simp [Refused, Representable, Seg.isGood, *]
  rw [(check_throws_iff src dst hne subst xs hu hlen).1, wellFormedByDesign, this, List.any_eq_not_all_not]
  simp

/-- building an `ST::string` under `check_validity`: throws exactly on text that is not well-formed by
    design, and otherwise stores the bytes unchanged -/
theorem string_check (xs : List Nat) (hb : Bytes xs) (hlen : xs.length < hugeBufferSize) :
    (wellFormedByDesign .utf8 xs = true → stringSetUtf8 .checkValidity (some xs) = .ok xs) ∧
    (wellFormedByDesign .utf8 xs = false → stringSetUtf8 .checkValidity (some xs) = .throw .unicodeError) := by
  rw [stringSet_check hlen]
  exact ⟨fun hw => if_pos ((validate_iff_seg xs hb).2 hw),
    fun hw => if_neg fun hv => Bool.eq_false_iff.1 hw ((validate_iff_seg xs hb).1 hv)⟩

/-- what `substitute_invalid` produces, unit for unit: every sequence transcoded, U+FFFD (or `?`)
    for each malformed unit and for each value the target cannot hold -/
def substUnits (src dst : Enc) : Seg → List Nat
  | .bad _ => replacement dst
  | .good v us =>
      match dst with
      | .utf8 => if src = .utf8 then us else encUtf8 v
      | .utf16 => if v ≤ 0x10FFFF then encUtf16 v else replacement .utf16
      | .utf32 => [v]
      | .latin1 => if v < 0x100 then [v] else [63]

theorem refStep_subst (src dst : Enc) (subst : Bool) (hd : dst ≠ .latin1 ∨ subst = true) (sg : Seg) :
    refStep src dst .substituteInvalid subst sg = some (substUnits src dst sg) := by
  cases sg with
  | bad u =>
    have : ¬ (src = .utf32 ∧ dst = .latin1 ∧ subst = false) := fun h => hd.elim (· h.2.1) (by simp [h.2.2])
    simp [refStep, substUnits, this]
  | good v us =>
    cases dst with
    | utf16 => by_cases hv : v ≤ 0x10FFFF <;> simp [refStep, substUnits, hv]
    | latin1 =>
      have hs : subst = true := hd.resolve_left (fun h => h rfl)
      by_cases hv : v < 0x100 <;> simp [refStep, substUnits, hv, hs]
    | _ => simp [refStep, substUnits]

theorem reference_subst (src dst : Enc) (subst : Bool) (hd : dst ≠ .latin1 ∨ subst = true) (xs : List Nat) :
    reference src dst .substituteInvalid subst xs = .ok ((seg src xs).flatMap (substUnits src dst)) :=
  reference_ok_iff.2 (refSteps_some _ fun sg _ => refStep_subst src dst subst hd sg)

/-- `substitute_invalid` never throws when the target can hold a replacement for everything
    (i.e. except Latin-1 without out-of-range substitution) -/
theorem subst_never_throws (src dst : Enc) (hne : src ≠ dst) (subst : Bool) (hd : dst ≠ .latin1 ∨ subst = true) (xs : List Nat)
    (hu : UnitsLt (unitBound src) xs) (hlen : xs.length < hugeBufferSize) :
    ∃ out, convert src dst .substituteInvalid subst (some xs) = .ok out :=
  ⟨_, (convert_eq_reference src dst hne _ subst xs hu hlen).trans (reference_subst src dst subst hd xs)⟩

theorem subst_output (src dst : Enc) (hne : src ≠ dst) (xs : List Nat)
    (hu : UnitsLt (unitBound src) xs) (hlen : xs.length < hugeBufferSize) :
    convert src dst .substituteInvalid true (some xs) = .ok ((seg src xs).flatMap (substUnits src dst)) :=
  (convert_eq_reference src dst hne _ true xs hu hlen).trans (reference_subst src dst true (.inr rfl) xs)

/-- the `ST::string` case the property's rationale mentions: a repaired string always passes
    `check_validity`, and repairing is idempotent -/
theorem string_subst_revalidates (xs : List Nat) (hb : Bytes xs) (hlen : xs.length < hugeBufferSize) :
    ∃ out, stringSetUtf8 .substituteInvalid (some xs) = .ok out ∧ validateUtf8 out = 0 ∧
      wellFormedByDesign .utf8 out = true ∧ cleanupUtf8 out = out := by
  refine ⟨cleanupUtf8 xs, ?_, validate_cleanup xs, ?_, ?_⟩
  · exact stringSet_subst hlen
  · exact (validate_iff_seg _ (cleanup_bytes xs hb)).mp (validate_cleanup xs)
  · exact cleanup_of_valid _ (validate_cleanup xs)

/-- well-formed-by-design UTF-8 is accepted unchanged by all three modes -/
theorem string_wellformed_unchanged (m : Mode) (xs : List Nat) (hb : Bytes xs) (hlen : xs.length < hugeBufferSize)
    (hw : wellFormedByDesign .utf8 xs = true) : stringSetUtf8 m (some xs) = .ok xs :=
  stringSet_of_valid m hlen ((validate_iff_seg xs hb).mpr hw)

/-- for a tolerated form (any sequence) the accept/reject decision is the same in every mode and in
    every conversion whose target can represent the decoded value: it is accepted.  Stated for the
    reference's step on that one segment (`refStep`); `convert_eq_reference` carries it to the code -/
theorem tolerated_same_decision (src dst : Enc) (m : Mode) (subst : Bool) (v : Nat) (us : List Nat)
    (hr : Representable dst subst v = true) : (refStep src dst m subst (.good v us)).isSome = true := by
  cases dst with
  | utf16 => have : v ≤ 0x10FFFF := by simpa [Representable] using hr
             simp [refStep, this]
  | latin1 =>
    by_cases hv : v < 0x100
    · simp [refStep, hv]
    · have : subst = true := by simpa [Representable, hv] using hr
      simp [refStep, hv, this]
  | _ => simp [refStep]

/-- isolation (no unit is swallowed by its neighbours), in the one-character form: the standard UTF-8
    sequence of `c` in front of any bytes `r`, malformed or not, is one segment of its own, and `r` is
    segmented behind it as it is on its own -/
theorem isolation_utf8 (c : Nat) (hc : c < 0x200000) (r : List Nat) :
    segUtf8 (encUtf8 c ++ r) = .good c (encUtf8 c) :: segUtf8 r := segUtf8_enc c hc r

/-! ### "its output always passes check_validity", literally, for the other targets

Full strength is false of the code *by design*: a tolerated form that crosses encodings can land on a
value the target's own validator refuses.  The two witnesses are proved here (and replayed on the
implementation, see known_findings.json); the partial theorem covers the inputs without them. -/

/-- UTF-32 output re-validates when no tolerated 4-byte form above U+10FFFF is present -/
theorem subst_output_valid_utf32_partial (src : Enc) (hne : src ≠ .utf32) (xs : List Nat)
    (hu : UnitsLt (unitBound src) xs) (hlen : xs.length < hugeBufferSize)
    (hyp : ∀ sg ∈ seg src xs, ∀ v us, sg = .good v us → v ≤ 0x10FFFF) :
    ∃ out, convert src .utf32 .substituteInvalid true (some xs) = .ok out ∧ wellFormedByDesign .utf32 out = true := by
  refine ⟨_, subst_output src .utf32 hne xs hu hlen, ?_⟩
  unfold wellFormedByDesign
  simp only [seg, segUtf32, List.all_map, List.all_eq_true, List.mem_flatMap]
  rintro x ⟨sg, hsg, hx⟩
  cases sg with
  | bad u => simp [substUnits, replacement] at hx; subst hx; simp [Seg.isGood]
  | good v us =>
    simp [substUnits] at hx
    have := hyp _ hsg v us rfl
    rw [hx]; simp [this, Seg.isGood]

/-- witness 1: an encoded surrogate substituted into UTF-16 is an unpaired surrogate there -/
theorem subst_output_invalid_utf16_witness :
    convert .utf8 .utf16 .substituteInvalid true (some [0xED, 0xA0, 0x80, 0x41]) = .ok [0xD800, 0x41] ∧
    wellFormedByDesign .utf16 [0xD800, 0x41] = false := by decide +kernel

/-- witness 2: a 4-byte form above U+10FFFF lands in UTF-32 as a value its validator refuses -/
theorem subst_output_invalid_utf32_witness :
    convert .utf8 .utf32 .substituteInvalid true (some [0xF7, 0xBF, 0xBF, 0xBF]) = .ok [0x1FFFFF] ∧
    wellFormedByDesign .utf32 [0x1FFFFF] = false := by decide +kernel

/-! non-vacuity -/
example : wellFormedByDesign .utf8 [0x41, 0xC0, 0x80, 0xED, 0xA0, 0x80, 0xF4, 0x90, 0x80, 0x80] = true := by decide +kernel
example : wellFormedByDesign .utf8 [0x41, 0x80] = false ∧ wellFormedByDesign .utf16 [0xDC00, 0xD800] = true ∧
    wellFormedByDesign .utf16 [0xD800] = false ∧ wellFormedByDesign .utf32 [0x110000] = false := by decide +kernel
example : cleanupUtf8 [0x41, 0xE2, 0x82, 0x42, 0xFF] = [0x41, 0xEF, 0xBF, 0xBD, 0xEF, 0xBF, 0xBD, 0x42, 0xEF, 0xBF, 0xBD] := by decide +kernel

end StVerif.Props.C02
