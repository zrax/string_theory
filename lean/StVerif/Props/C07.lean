/-
  C07 — Searching returns exactly the first/last occurrence for any haystack and needle.

  Vocabulary: `find`, `findLast`, `findAll`, `findLastAll`, `contains`, `startsWith`, `endsWith`
  are the models of the public members (Model/Find.lean); `Needle` / `Affix` are the overload
  families; `Needle.text` is the text an argument denotes (a char = the one-unit text, a
  `const char*` = the bytes before the first NUL, nothing for a null pointer); `IsFind`,
  `IsFindLast`, `Contains`, `StartsWith`, `EndsWith`, `occursAt` are the Spec (Spec/Search.lean).
  Haystacks and needles are arbitrary lists of units (all byte values, embedded NUL included),
  `start` and `max` range over all of `Nat` (so `SIZE_MAX` and everything beyond the end).
-/
import StVerif.Lemmas.Find

namespace StVerif.Props.C07
open StVerif.Search StVerif.Spec.Search
open StVerif.Lemmas.Search StVerif.Lemmas.SearchSpec StVerif.Lemmas.Find

/-- `find(start, needle, cs)` is the least index `≥ start` at which the needle's text occurs, and
    `-1` exactly when there is none, the text is empty (or the pointer null), or `start ≥ size`. -/
theorem find_eq_spec (cs : CaseMode) (s : List Nat) (start : Nat) (nd : Needle) :
    IsFind cs s start nd.text (find cs s start nd) := by
  rw [find_eq_text]; exact find__isFind cs s start nd.text

/-- the same, as an equation with the executable form of the Spec the driver evaluates -/
theorem find_eq_findRef (cs : CaseMode) (s : List Nat) (start : Nat) (nd : Needle) :
    find cs s start nd = findRef cs s start nd.text :=
  (isFind_iff_findRef ..).1 (find_eq_spec cs s start nd)

/-- `find_last(max, needle, cs)` is the greatest index of an occurrence lying entirely before `max`
    (`i + |needle| ≤ max`), `-1` when there is none or the text is empty. -/
theorem find_last_eq_spec (cs : CaseMode) (s : List Nat) (max : Nat) (nd : Needle) :
    IsFindLast cs s max nd.text (findLast cs s max nd) := by
  rw [findLast_eq_text]; exact findLast__isFindLast cs s max nd.text

theorem find_last_eq_findLastRef (cs : CaseMode) (s : List Nat) (max : Nat) (nd : Needle) :
    findLast cs s max nd = findLastRef cs s max nd.text :=
  (isFindLast_iff_findLastRef ..).1 (find_last_eq_spec cs s max nd)

/-- the overloads without a position: `find(needle)` searches from 0, `find_last(needle)` has the
    limit `ST_AUTO_SIZE = SIZE_MAX`, which lies beyond every occurrence -/
theorem find_all_eq_spec (cs : CaseMode) (s : List Nat) (nd : Needle) :
    IsFind cs s 0 nd.text (findAll cs s nd) := find_eq_spec cs s 0 nd

theorem find_last_all_eq_spec (cs : CaseMode) (s : List Nat) (nd : Needle) :
    IsFindLast cs s SIZE_MAX nd.text (findLastAll cs s nd) := find_last_eq_spec cs s SIZE_MAX nd

/-- a limit at or beyond the end is no limit: `find_last(max, …)` for every `max ≥ size` is the last
    occurrence in the whole text -/
theorem find_last_limit_beyond_end (cs : CaseMode) (s : List Nat) (max max' : Nat) (nd : Needle)
    (h : s.length ≤ max) (h' : s.length ≤ max') : findLast cs s max nd = findLast cs s max' nd := by
  -- the limit is clamped to the size before anything else happens
  rw [findLast_eq_text, findLast_eq_text]
  unfold findLast_
  rw [clamp_eq_min, clamp_eq_min, Nat.min_eq_right h, Nat.min_eq_right h']

/-- `contains` is true exactly when `find` succeeds, i.e. exactly when the (non-empty) text occurs -/
theorem contains_iff (cs : CaseMode) (s : List Nat) (nd : Needle) :
    (contains cs s nd = true ↔ findAll cs s nd ≥ 0) ∧
    (contains cs s nd = true ↔ Contains cs s nd.text) := by
  refine ⟨by simp [contains], ?_⟩
  simp only [contains, decide_eq_true_eq, Contains, findAll_eq]
  have hl := findSub_least cs s nd.text
  cases h : findSub cs s nd.text with
  | some i =>
    rw [h] at hl
    exact ⟨fun _ => ⟨hl.1.1, i, hl.1.2⟩, fun _ => idx_some_nonneg i⟩
  | none =>
    rw [h] at hl
    exact ⟨fun hge => absurd hge idx_none_neg, fun ⟨hne, i, ho⟩ => absurd ⟨hne, ho⟩ (hl i)⟩

/-- `starts_with` is true exactly when the text begins with the argument's text (trivially for the
    empty text and the null pointer); bytes are 0..255 -/
theorem starts_with_iff (cs : CaseMode) (s : List Nat) (a : Affix) (bs : Bytes s) (ba : Bytes a.text) :
    startsWith cs s a = true ↔ StartsWith cs s a.text := by
  rw [startsWith_eq, Lemmas.Compare.Rhs.size_eq, Affix.toRhs_text]
  unfold StartsWith
  by_cases h : a.text.length > s.length
  · rw [if_pos h]
    exact ⟨nofun, fun e => absurd e.1 (Nat.not_le.2 h)⟩
  · rw [if_neg h, beq_iff_eq, Lemmas.Compare.strCompareN_eq_take, Affix.toRhs_text, List.take_length,
      Lemmas.Compare.strCompare_eq_zero_iff cs _ _ (bs.take _) ba]
    exact ⟨fun e => ⟨Nat.le_of_not_lt h, e⟩, And.right⟩

/-- `ends_with` is true exactly when the text ends with the argument's text -/
theorem ends_with_iff (cs : CaseMode) (s : List Nat) (a : Affix) :
    endsWith cs s a = true ↔ EndsWith cs s a.text := by
  rw [endsWith_eq]
  unfold EndsWith
  by_cases h : a.text.length > s.length
  · rw [if_pos h]
    exact ⟨nofun, fun e => absurd e.1 (Nat.not_le.2 h)⟩
  · have hp := Nat.le_of_not_lt h
    rw [if_neg h, prefixEq_iff, List.length_drop, Nat.sub_sub_self hp,
      List.take_of_length_le (by rw [List.length_drop, Nat.sub_sub_self hp]; exact Nat.le_refl _)]
    exact ⟨fun e => ⟨hp, e.2⟩, fun e => ⟨Nat.le_refl _, e.2⟩⟩

theorem affix_empty_trivial (cs : CaseMode) (s : List Nat) : StartsWith cs s [] ∧ EndsWith cs s [] := by
  simp [StartsWith, EndsWith, norm_nil]

/-- the case-insensitive variants match modulo ASCII case only: searching case-insensitively is
    searching case-sensitively after folding `A`-`Z` to `a`-`z` in haystack and needle, and an
    occurrence modulo case is an occurrence of the folded needle in the folded haystack -/
theorem ci_eq_cs_on_fold (s : List Nat) (pos : Nat) (nd : Needle) :
    find .insensitive s pos nd = find .sensitive (s.map foldAscii) pos (nd.map foldAscii) ∧
    findLast .insensitive s pos nd = findLast .sensitive (s.map foldAscii) pos (nd.map foldAscii) ∧
    (∀ needle i, occursAt .insensitive s needle i ↔
        occursAt .sensitive (s.map foldAscii) (needle.map foldAscii) i) := by
  refine ⟨?_, ?_, fun needle i => occursAt_fold s needle i⟩
  · rw [find_eq_findRef, find_eq_findRef, Needle.text_map_fold, findRef_fold]
  · rw [find_last_eq_findLastRef, find_last_eq_findLastRef, Needle.text_map_fold, findLastRef_fold]

/-- folding touches nothing but the 26 upper-case ASCII letters -/
theorem fold_only_ascii_upper (c : Nat) :
    foldAscii c = if 0x41 ≤ c ∧ c ≤ 0x5A then c + 32 else c :=
  (lower_eq_foldAscii c).symm

/-- the char, `const char*`, `(pointer,length)` and `ST::string` forms of a needle give the same
    answer whenever they denote the same text -/
theorem needle_forms_agree (cs : CaseMode) (s : List Nat) (pos : Nat) (nd nd' : Needle) (h : nd.text = nd'.text) :
    find cs s pos nd = find cs s pos nd' ∧ findLast cs s pos nd = findLast cs s pos nd' ∧
    findAll cs s nd = findAll cs s nd' ∧ findLastAll cs s nd = findLastAll cs s nd' ∧
    contains cs s nd = contains cs s nd' := by
  have e1 : ∀ p, find cs s p nd = find cs s p nd' := fun p => by rw [find_eq_text, find_eq_text, h]
  have e2 : ∀ p, findLast cs s p nd = findLast cs s p nd' := fun p => by rw [findLast_eq_text, findLast_eq_text, h]
  exact ⟨e1 pos, e2 pos, e1 0, e2 SIZE_MAX, by simp [contains, findAll, e1 0]⟩

/-- the instances named in the property: a `char` is the one-unit text, a `const char*` is the bytes
    before its first NUL, `(ptr,len)` and `ST::string` are the units themselves -/
theorem needle_forms_agree_instances (cs : CaseMode) (s : List Nat) (pos : Nat) (c : Nat) (p : List Nat) :
    find cs s pos (.ch c) = find cs s pos (.sized [c]) ∧
    find cs s pos (.cstr (some p)) = find cs s pos (.sized (cstr p)) ∧
    find cs s pos (.str p) = find cs s pos (.sized p) ∧
    findLast cs s pos (.ch c) = findLast cs s pos (.sized [c]) ∧
    findLast cs s pos (.cstr (some p)) = findLast cs s pos (.sized (cstr p)) ∧
    findLast cs s pos (.str p) = findLast cs s pos (.sized p) :=
  ⟨(needle_forms_agree cs s pos (.ch c) (.sized [c]) rfl).1,
   (needle_forms_agree cs s pos (.cstr (some p)) (.sized (cstr p)) rfl).1,
   (needle_forms_agree cs s pos (.str p) (.sized p) rfl).1,
   (needle_forms_agree cs s pos (.ch c) (.sized [c]) rfl).2.1,
   (needle_forms_agree cs s pos (.cstr (some p)) (.sized (cstr p)) rfl).2.1,
   (needle_forms_agree cs s pos (.str p) (.sized p) rfl).2.1⟩

/-- the same for the two affix forms of `starts_with` / `ends_with` -/
theorem affix_forms_agree (cs : CaseMode) (s : List Nat) (a a' : Affix) (h : a.text = a'.text)
    (bs : Bytes s) (ba : Bytes a.text) :
    startsWith cs s a = startsWith cs s a' ∧ endsWith cs s a = endsWith cs s a' := by
  constructor
  · have := starts_with_iff cs s a bs ba
    have := starts_with_iff cs s a' bs (h ▸ ba)
    rw [Bool.eq_iff_iff]; simp_all
  · have := ends_with_iff cs s a
    have := ends_with_iff cs s a'
    rw [Bool.eq_iff_iff]; simp_all

/-- self-overlapping needle: "aab" in "aaab" is found at 1 -/
example : find .sensitive [0x61, 0x61, 0x61, 0x62] 0 (.str [0x61, 0x61, 0x62]) = 1 := by decide
/-- a first-character hit whose remainder runs past the end -/
example : find .sensitive [0x61, 0x62, 0x61] 0 (.str [0x61, 0x62, 0x61, 0x62]) = -1 := by decide
/-- a limit that cuts an occurrence in two -/
example : findLast .sensitive [0x61, 0x62, 0x61, 0x62] 3 (.str [0x61, 0x62]) = 0 := by decide
example : findLast .sensitive [0x61, 0x62, 0x61, 0x62] 4 (.str [0x61, 0x62]) = 2 := by decide
/-- NUL inside haystack and needle through the sized form; the `const char*` form sees the text before it -/
example : find .sensitive [0x61, 0, 0x62] 0 (.sized [0, 0x62]) = 1 := by decide
example : find .sensitive [0x61, 0, 0x62] 0 (.cstr (some [0x61, 0, 0x63])) = 0 := by decide
example : find .insensitive [0x41, 0x42, 0x43] 0 (.str [0x62, 0x63]) = 1 := by decide
example : occursAt .insensitive [0x41, 0x42, 0x43] [0x62, 0x63] 1 := by decide

/-- the byte hypotheses of `starts_with_iff` / `affix_forms_agree` are satisfiable (any byte values, NUL and ≥ 0x80 included) -/
example : Bytes [0x00, 0x41, 0x80, 0xFF] ∧ Bytes (Affix.text (.cstr (some [0x61, 0x00, 0x62]))) := by decide

end StVerif.Props.C07
