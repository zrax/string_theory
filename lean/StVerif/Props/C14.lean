/-
  C14 — hex and base64 encodings are standard and decode back to the original bytes.
-/
import StVerif.Lemmas.Codec
import StVerif.Lemmas.CodecDecode

namespace StVerif.Props.C14
open StVerif.Codec StVerif.Lemmas.Codec
open StVerif.Spec

/-- hex_encode produces two lower-case hexadecimal digits per byte (the declarative encoding) -/
theorem hexEncode_eq_spec (bs : List Nat) (h : Bytes bs) : hexEncode bs = Rfc4648.hexEncode bs := by
  induction bs with
  | nil => rfl
  | cons b rest ih =>
    obtain ⟨hb, hr⟩ := List.forall_mem_cons.mp h
    rw [hexEncode_cons hb, Rfc4648.hexEncode, ih hr, hexChar_eq_digit (Nat.div_lt_of_lt_mul hb),
      hexChar_eq_digit (Nat.mod_lt b (by decide))]

theorem hexEncode_length (bs : List Nat) : (hexEncode bs).length = 2 * bs.length := by
  induction bs with
  | nil => rfl
  | cons b rest ih => exact congrArg (· + 2) ih

/-- base64_encode is the RFC 4648 standard-alphabet encoding with `=` padding -/
theorem b64Encode_eq_spec (bs : List Nat) (h : Bytes bs) : b64Encode bs = Rfc4648.b64Encode bs := by
  induction bs using b64Encode.induct with
  | case1 a b c rest ih =>
    simp only [Bytes_cons] at h
    obtain ⟨ha, hb, hc, hr⟩ := h
    have hn : a * 65536 + b * 256 + c = ((sextet0 a * 64 + sextet1 a b) * 64 + sextet2 b c) * 64 + sextet3 c := by
      unfold sextet0 sextet1 sextet2 sextet3; omega
    have l0 := sextet0_lt ha
    have l1 := sextet1_lt a hb
    have l2 := sextet2_lt b hc
    have l3 := sextet3_lt c
    obtain ⟨e0, e1, e2, e3⟩ := base64_digits l0 l1 l2 l3 hn
    rw [b64Encode_cons3 a hb hc, Rfc4648.b64Encode, ih hr, e0, e1, e2, e3, b64Char_eq_alphabet l0,
      b64Char_eq_alphabet l1, b64Char_eq_alphabet l2, b64Char_eq_alphabet l3]
  | case2 a b =>
    simp only [Bytes_cons] at h
    obtain ⟨ha, hb, _⟩ := h
    have hn : (a * 256 + b) * 4 = ((0 * 64 + sextet0 a) * 64 + sextet1 a b) * 64 + sextet2 b 0 := by
      unfold sextet0 sextet1 sextet2; omega
    have l0 := sextet0_lt ha
    have l1 := sextet1_lt a hb
    have l2 := sextet2_lt b (Nat.zero_lt_succ 255)
    obtain ⟨_, e0, e1, e2⟩ := base64_digits (Nat.zero_lt_succ 63) l0 l1 l2 hn
    rw [b64Encode_two a hb, Rfc4648.b64Encode, e0, e1, e2, b64Char_eq_alphabet l0, b64Char_eq_alphabet l1,
      b64Char_eq_alphabet l2]
    rfl
  | case3 a =>
    have ha : a < 256 := h a List.mem_cons_self
    have hn : a * 16 = ((0 * 64 + 0) * 64 + sextet0 a) * 64 + sextet1 a 0 := by
      unfold sextet0 sextet1; omega
    have l0 := sextet0_lt ha
    have l1 := sextet1_lt a (Nat.zero_lt_succ 255)
    obtain ⟨_, _, e0, e1⟩ := base64_digits (Nat.zero_lt_succ 63) (Nat.zero_lt_succ 63) l0 l1 hn
    rw [b64Encode_one a, Rfc4648.b64Encode, e0, e1, b64Char_eq_alphabet l0, b64Char_eq_alphabet l1]
    rfl
  | case4 => rfl

/-- length 4·⌈n/3⌉, which is also what `b64_encode_size` allocates -/
theorem b64Encode_length (bs : List Nat) :
    (b64Encode bs).length = 4 * ((bs.length + 2) / 3) ∧ (b64Encode bs).length = b64EncodeSize bs.length := by
  refine (fun h => ⟨h, h.trans (Nat.mul_comm _ _)⟩) ?_
  fun_induction b64Encode bs with
  | case1 a b c rest ih =>
    rw [show ((a :: b :: c :: rest).length + 2) / 3 = (rest.length + 2) / 3 + 1
      from Nat.add_div_right _ (Nat.zero_lt_succ 2)]
    exact congrArg (· + 4) ih
  | case2 a b => simp
  | case3 a => simp
  | case4 => rfl

/-- both hex decoders return the original bytes from the encoder's output re-spelt by any `f` that keeps the digits'
    values: the caller-buffer form for any sufficient `output_size`, and the allocating form -/
theorem hexDecode_encode_map (f : Nat → Nat) (hf : ∀ i, i < 16 → hexVal (f (hexChar i)) = (i : Int))
    (bs : List Nat) (h : Bytes bs) :
    hexDecodeAlloc ((hexEncode bs).map f) = .ok bs ∧
    ∀ cap, bs.length ≤ cap → hexDecodeInto ((hexEncode bs).map f) (some cap) = { writes := bs, ret := (bs.length : Int) } := by
  obtain ⟨hok, hdec⟩ := hexDecPairs_encode_map f hf bs h
  have hl : ((hexEncode bs).map f).length = 2 * bs.length := by rw [List.length_map, hexEncode_length]
  refine ⟨?_, fun cap hc => ?_⟩
  · rw [hexDecodeAlloc_eq, hl, Nat.mul_mod_right, if_pos ⟨rfl, hok⟩, hdec]
  · rw [hexDecodeInto_some, hl, Nat.mul_mod_right, Nat.mul_div_cancel_left _ (Nat.zero_lt_succ 1), if_pos ⟨rfl, hc⟩,
      if_pos hok, hdec]

/-- the caller-buffer hex decoder returns the original bytes for any sufficient `output_size` -/
theorem hexDecodeInto_encode (bs : List Nat) (h : Bytes bs) (cap : Nat) (hc : bs.length ≤ cap) :
    hexDecodeInto (hexEncode bs) (some cap) = { writes := bs, ret := (bs.length : Int) } := by
  have := (hexDecode_encode_map id (fun _ hi => hexVal_hexChar hi) bs h).2 cap hc
  rwa [List.map_id] at this

/-- the allocating hex decoder returns the original bytes -/
theorem hexDecodeAlloc_encode (bs : List Nat) (h : Bytes bs) : hexDecodeAlloc (hexEncode bs) = .ok bs := by
  have := (hexDecode_encode_map id (fun _ hi => hexVal_hexChar hi) bs h).1
  rwa [List.map_id] at this

/-- upper-case hex decodes to the same bytes as lower-case, through both decoder forms -/
theorem hexDecode_upper (bs : List Nat) (h : Bytes bs) :
    hexDecodeAlloc ((hexEncode bs).map Rfc4648.upperHex) = .ok bs ∧
    ∀ cap, bs.length ≤ cap →
      hexDecodeInto ((hexEncode bs).map Rfc4648.upperHex) (some cap) = { writes := bs, ret := (bs.length : Int) } :=
  hexDecode_encode_map Rfc4648.upperHex (fun _ hi => hexVal_upper hi) bs h

/-- the caller-buffer base64 decoder returns the original bytes for any sufficient `output_size` -/
theorem b64DecodeInto_encode (bs : List Nat) (h : Bytes bs) (cap : Nat) (hc : bs.length ≤ cap) :
    b64DecodeInto (b64Encode bs) (some cap) = { writes := bs, ret := (bs.length : Int) } := by
  by_cases hne : bs = []
  · subst hne; rfl
  · obtain ⟨body, c0, c1, c2, c3, m, he, hbl, hok, hfin, hdec⟩ := b64Encode_shape bs h hne
    have hlen := congrArg List.length hdec
    rw [List.length_append, (decBody_length m body hbl).2 hok] at hlen
    obtain ⟨w, hw, _, hwd⟩ := b64DecodeInto_split c0 c1 c2 c3 cap hbl
    rw [he, hw, if_pos ⟨hlen ▸ hc, hok, hfin⟩, hwd (hlen ▸ hc) hok hfin, hdec, hlen]

/-- the allocating base64 decoder returns the original bytes -/
theorem b64DecodeAlloc_encode (bs : List Nat) (h : Bytes bs) : b64DecodeAlloc (b64Encode bs) = .ok bs := by
  by_cases hne : bs = []
  · subst hne; decide
  · obtain ⟨body, c0, c1, c2, c3, m, he, hbl, hok, hfin, hdec⟩ := b64Encode_shape bs h hne
    rw [he, b64DecodeAlloc_split c0 c1 c2 c3 hbl, if_pos ⟨hok, hfin⟩, hdec]

/-- the regenerated tables fit each other and the specification on their whole domain (re-checked whenever the
    source tables change): the value tables invert the character tables (for hex also through upper-casing), a value
    is non-negative exactly on the specification's characters, and the character tables are the RFC alphabets -/
theorem tables_inverse :
    (∀ i : Fin 64, b64Val (b64Char i.val) = (i.val : Int)) ∧ (∀ i : Fin 16, hexVal (hexChar i.val) = (i.val : Int)) ∧
    (∀ i : Fin 16, hexVal (Rfc4648.upperHex (hexChar i.val)) = (i.val : Int)) ∧
    (∀ b : Fin 256, decide (0 ≤ hexVal b.val) = Rfc4648.isHexDigit b.val) ∧
    (∀ b : Fin 256, decide (0 ≤ b64Val b.val) = Rfc4648.isB64Char b.val) ∧
    (∀ i : Fin 64, b64Char i.val = Rfc4648.alphabet i.val) ∧ (∀ i : Fin 16, hexChar i.val = Rfc4648.hexDigit i.val) :=
  ⟨fun i => b64Val_b64Char i.isLt, fun i => hexVal_hexChar i.isLt, fun i => hexVal_upper i.isLt,
   fun b => (hexVal_spec b.isLt).1, fun b => (b64Val_spec b.isLt).1,
   fun i => b64Char_eq_alphabet i.isLt, fun i => hexChar_eq_digit i.isLt⟩

/-! non-vacuity -/
example : Bytes [0, 255, 16, 127, 128] := by decide
example : b64Encode [77, 97, 110, 255, 0] = [84, 87, 70, 117, 47, 119, 65, 61] := by decide +kernel
example : hexEncode [0, 255, 16] = [48, 48, 102, 102, 49, 48] := by decide +kernel

end StVerif.Props.C14
