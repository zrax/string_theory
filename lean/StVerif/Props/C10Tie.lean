/- Tie of property C10 to the source: the theorems `translated function = model` (tools/gen_kernels.py regenerates
   StVerif/Generated/Kernels.lean from the C++ on every run).  Kept apart from Props/C10.lean so that a bridge that stops
   checking leaves the property's other theorems built and audited (DESIGN.md section 14). -/
import StVerif.Props.C10
import StVerif.Lemmas.KernelFormat

namespace StVerif.Props.C10
open StVerif.Fmt

/-- the translated `ST::format_string` (include/st_formatter.h; the padding / truncation of every text-like argument;
    `static_cast<int>(size)` and the unsigned `minimum_length - size` as the explicit wrap-arounds they are) is the
    model's `formatString` for EVERY text length below 2^64 - also 2^31 and more, where the narrowing wraps - and every width
    and precision: the only thing read is `text.take` of the effective size, never anything outside the text -/
theorem translated_format_string_is_model (f : FormatSpec) (text : List Nat) (hpad : f.pad < 256) (hlen : text.length < 2 ^ 64) :
    StVerif.Generated.Kernels.format_string text (KernelBridge.alignCode f.alignment) f.minimumLength (StVerif.Cxx.toChar f.pad)
      f.precision 0 text.length 1 = .ok ((StVerif.Fmt.formatString f text).map KernelBridge.ofEvent) :=
  KernelBridge.format_string_eq f text hpad hlen

end StVerif.Props.C10
