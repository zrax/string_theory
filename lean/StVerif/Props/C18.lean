/-
  C18 — a failed operation leaves its target and its arguments unchanged.

  Model: `Model/StrPool.lean`: every throwing entry point as a do-block with the real statement order
  (validate-then-commit in `set(char_buffer)`, conversion into a temporary followed by move assignment,
  `operator+=` as `set(*this + x)`, code point validated after the concatenation buffer was allocated, …),
  temporaries destroyed during unwinding.  The exceptions are `unicode_error` (modelled precisely: when it is
  raised is part of the model) and, for value computations whose result is a parameter here (decode, format,
  Latin-1 conversion), any exception other than `bad_alloc` raised before a result object exists.
-/
import StVerif.Lemmas.StrPoolReach
import StVerif.Props.C04
import StVerif.Lemmas.StreamOps

namespace StVerif.Props.C18
open StVerif.Pool StVerif.StrPool

/-- **strong guarantee**: when an operation of any history throws, the exception is not `bad_alloc` (there is no
    allocation fault in these runs), and *every* object — the object being assigned or appended to, lvalue
    arguments, and an rvalue argument that was to be moved from — is the very same object (size, bytes, data
    pointer) holding the same value; the invariant still holds (nothing leaked, nothing shared) and no temporary
    survives. -/
theorem strong_guarantee {L : Nat} (hL : 0 < L) {p p' : Pool} (hr : SReach L p) (op : SOp) (hpre : op.pre p) {e : Exc}
    (h : op.run p = .throw e p') :
    e ≠ .badAlloc ∧ (∀ x, p'.objs x = p.objs x ∧ view p' x = view p x) ∧ Inv p' ∧ TempsDead p' := by
  obtain ⟨hI, hT, hF⟩ := sreach_inv hL hr
  rcases sop_spec hI hF hT op hpre with ⟨p'', h1, _⟩ | ⟨e', p'', h1, he, s1, t1, _⟩
  · rw [h] at h1; cases h1
  · rw [h] at h1; cases h1
    exact ⟨he, fun x => ⟨s1.objs x id, s1.view x id⟩, s1.inv, t1⟩

/-- **no storage is leaked** by a failed operation: every heap block of the state after the throw is owned by a
    live, non-temporary object (and by exactly one: `Inv.uniq`) -/
theorem nothing_leaked {L : Nat} (hL : 0 < L) {p p' : Pool} (hr : SReach L p) (op : SOp) (hpre : op.pre p) {e : Exc}
    (h : op.run p = .throw e p') : ∀ k blk, p'.heap k = some blk → ∃ o, Owns p' o k ∧ ¬ isTemp o :=
  (Props.C04.temporaries_gone hL (.thrown hr hpre h)).2

/-- **usable afterwards**: the state after the throw is a reachable state like any other, and every operation whose
    precondition held before the failed call still has its precondition — so the same objects can be read, assigned,
    appended to and destroyed, with all guarantees of C04/C05 (by the theorems about reachable states). -/
theorem usable_after {L : Nat} {p p' : Pool} (hr : SReach L p) (op : SOp) (hpre : op.pre p) {e : Exc}
    (h : op.run p = .throw e p') (hL : 0 < L) : SReach L p' ∧ ∀ op' : SOp, op'.pre p → op'.pre p' := by
  refine ⟨.thrown hr hpre h, fun op' hp => ?_⟩
  obtain ⟨_, hsame, _, _⟩ := strong_guarantee hL hr op hpre h
  exact pre_congr (fun x => (hsame x).1) op' hp

/-- when exactly `set` / assignment from UTF-8 text throws `unicode_error`: under `check_validity`, on text the
    validator rejects — and never otherwise -/
theorem setText_throws_iff {L : Nat} (hL : 0 < L) {p : Pool} (hr : SReach L p) {o : Nat} (hpre : (SOp.setText o us m).pre p) :
    (∃ p', (SOp.setText o us m).run p = .throw .unicodeError p') ↔ (m = .checkValidity ∧ Utf.validateUtf8 us ≠ 0) := by
  rw [throws_iff_effect hL hr _ hpre]
  simp only [Sched.effect, Sched.store_error_iff]
  cases m <;> simp [setRes]

/-- appending a code point throws exactly when it has no UTF-8 encoding (above U+10FFFF); surrogate values are
    tolerated and do not throw -/
theorem appendChar_throws_iff {L : Nat} (hL : 0 < L) {p : Pool} (hr : SReach L p) {o ch : Nat} (hpre : (SOp.appendChar o ch).pre p) :
    (∃ p', (SOp.appendChar o ch).run p = .throw .unicodeError p') ↔ ch > 0x10FFFF := by
  rw [throws_iff_effect hL hr _ hpre, ← Lemmas.Utf.writeUtf8_eq_none_iff]
  simp only [Sched.effect, Sched.store_error_iff, Option.map_eq_none_iff]

/-! ### stream insertion (`include/st_stringstream.h`: `operator<<` of wide text converts into a local, then appends) -/

/-- **a failed insertion leaves every stream as it was**: in any state satisfying the stream machine's invariant, when an
    operation of the `string_stream` model (every `append` / `operator<<` overload, `truncate`, `erase`, moves, `to_string`)
    throws `unicode_error` — wide text the default validation rejects — the content `raw_buffer()[0, size())` of *every* live
    stream is what it was, the invariant (ownership, no leak) still holds, and no allocation fault was involved -/
theorem stream_insertion_strong_guarantee {p p' : Stream.Pool} (hi : Stream.Inv p) (op : Stream.Op) (hwf : op.wf)
    (hok : Spec.ByteLog.ok (Stream.abs p) op.toSpec = true) (h : op.run .repaired p = .throw .unicodeError p') :
    Stream.Inv p' ∧ Stream.abs p' = Stream.abs p ∧ p'.failAt = p.failAt := by
  rcases Stream.step_sound hi op hwf hok with ⟨q, h1, _⟩ | ⟨q, h1, h2, h3, _, h5⟩ | ⟨q, h1, _⟩
  · rw [h] at h1; cases h1
  · rw [h] at h1; cases h1; exact ⟨h2, h3, h5⟩
  · rw [h] at h1; cases h1

/-! ### the hypotheses are satisfiable: a throwing call exists in a reachable state -/

example : ∃ p1 p2, SReach 16 p1 ∧ (SOp.setText 0 [0x41, 0xC3] .checkValidity).pre p1 ∧
    (SOp.setText 0 [0x41, 0xC3] .checkValidity).run p1 = .throw .unicodeError p2 := by
  have hL : 0 < 16 := by decide
  have hpre : (SOp.ctorDefault 0).pre (Pool.init 16) := ⟨userId_zero, rfl⟩
  obtain ⟨p1, h1, _, v1⟩ := ctorDefault_spec (sreach_inv hL (.init : SReach 16 (Pool.init 16))).1 (o := 0) rfl
  have hr1 : SReach 16 p1 := .ok .init hpre h1
  have hpre2 : (SOp.setText 0 [0x41, 0xC3] .checkValidity).pre p1 := ⟨userId_zero, alive_of_view v1⟩
  obtain ⟨p2, h2⟩ := (setText_throws_iff hL hr1 hpre2).mpr ⟨rfl, by decide⟩
  exact ⟨p1, p2, hr1, hpre2, h2⟩

end StVerif.Props.C18
