/-
  C10 — the format-string parser is total and memory-safe on every format string.

  `run fmt args` is the model of `ST::apply_format(writer, args…)` (Model/FmtParse.lean,
  Model/FmtRender.lean): the format string is read through `rd`, which is defined on the bytes of
  the string and on its terminating NUL only, so a read behind the terminator is the outcome
  `oob`; every loop carries an explicit progress guard whose failure is the outcome `stuck`.
  The theorems hold for every byte list as format string (no assumption on its content, not even
  the absence of zero bytes) and every argument list; the one condition on arguments, `Arg.WideOk`,
  says of wide-text arguments (`const wchar_t* / char16_t* / char32_t*`, `std::basic_string(_view)`
  of those) that their units fit the C++ type and that the text is below the documented 2^28-unit
  limit of the conversion functions — it is vacuous for every other argument.  Wide text that the
  default validation rejects makes the call throw `ST::unicode_error` (one of the exceptions the
  property names).

  What the machine does on the real code (loads, the libc `strtol`) is observed by the
  correspondence run under ASan with the format string in an exact-size heap block.
-/
import StVerif.Lemmas.FmtRender
import StVerif.Lemmas.UtfString

namespace StVerif.Props.C10
open StVerif.Fmt StVerif.Lemmas.Fmt StVerif.Generated

/-- the assertion of a call, traced to its origin: some argument's formatter raised it under a
    spec that `parse_format` produced from this format string -/
def AssertOrigin (fmt : List Nat) (args : List Arg) (w : String) : Prop :=
  FieldAssert fmt (fun spec w => ∃ a ∈ args, formatType a spec = .assertFail w) w

/-- the core statement: the events of a format call are output, `bad_format`, `out_of_range`,
    `unicode_error` (a wide-text argument the default validation rejects) or the assertion of one
    argument's formatter — never `oob`, `stuck`, `ub` -/
theorem run_sat (fmt : List Nat) (args : List Arg) (hwd : ∀ a ∈ args, a.WideOk) :
    Sat (fun _ => True) (fun e => e = .badFormat ∨ e = .outOfRange ∨ e = .unicodeError) (AssertOrigin fmt args) (run (some fmt) args) := by
  refine applyFormat_sat fmt args.length (formattersOf args) (· = .unicodeError) _ (formattersOf_ok args _ _ fun a ha f => ?_)
  exact (formatType_sat_all a f (hwd a ha)).trace.mono (fun _ _ => trivial) (fun _ => And.right) (fun w hw => ⟨a, ha, hw.1⟩)

/-- **never reads past the terminating NUL**: every index the parser reads is at most `|fmt|` -/
theorem parse_no_oob (fmt : Option (List Nat)) (args : List Arg) (hwd : ∀ a ∈ args, a.WideOk) : run fmt args ≠ .oob := by
  cases fmt with
  | none => nofun
  | some f => exact (run_sat f args hwd).ne_oob

/-- **never hangs**: every iteration of `fetch_prefix`, of the specifier loop (including the
    `m_format_str = end − 1` re-scan after a `strtol` that consumed nothing) and of `apply_format`
    strictly advances and stays inside the string, so no progress guard ever fails -/
theorem parse_terminates (fmt : Option (List Nat)) (args : List Arg) (hwd : ∀ a ∈ args, a.WideOk) : run fmt args ≠ .stuck := by
  cases fmt with
  | none => nofun
  | some f => exact (run_sat f args hwd).ne_stuck

theorem parse_no_ub (fmt : Option (List Nat)) (args : List Arg) (hwd : ∀ a ∈ args, a.WideOk) (w : String) : run fmt args ≠ .ub w := by
  cases fmt with
  | none => nofun
  | some f => exact (run_sat f args hwd).ne_ub w

/-- a null format string throws `std::invalid_argument` from every entry point -/
theorem null_fmt (args : List Arg) (e : Entry) :
    run none args = .throw .invalidArgument ∧ runFormat e none args = .throw .invalidArgument :=
  ⟨rfl, rfl⟩

/-- the outcomes of the sink-event level for every argument list whose wide-text arguments are
    `WideOk` (floating-point included, nothing assumed of libc): output, `bad_format`,
    `out_of_range`, `unicode_error`, or an assertion that is the char-padding one or "Your libc
    doesn't support reporting format size" (`AssertClass`).  That the latter needs an `snprintf`
    that reports a non-positive size is `char_padding_only_assert`. -/
theorem outcomes_all_args (fmt : List Nat) (args : List Arg) (hwd : ∀ a ∈ args, a.WideOk) :
    (∃ ev, run (some fmt) args = .ok ev) ∨ run (some fmt) args = .throw .badFormat ∨ run (some fmt) args = .throw .outOfRange ∨
    run (some fmt) args = .throw .unicodeError ∨
    (∃ w, run (some fmt) args = .assertFail w ∧ AssertClass w) := by
  have h := run_sat fmt args hwd
  cases hr : run (some fmt) args with
  | ok ev => exact Or.inl ⟨ev, rfl⟩
  | throw e =>
    rcases h.of_throw hr with rfl | rfl | rfl
    · exact Or.inr (Or.inl rfl)
    · exact Or.inr (Or.inr (Or.inl rfl))
    · exact Or.inr (Or.inr (Or.inr (Or.inl rfl)))
  | assertFail w =>
    obtain ⟨p, spec, p', _, a, ha, hw⟩ := h.of_assert hr
    exact Or.inr (Or.inr (Or.inr (Or.inr ⟨w, rfl, (formatType_sat_all a spec (hwd a ha)).of_assert hw⟩)))
  | _ => rw [hr] at h; exact h.elim

/-- **the only way the process stops is the documented assertion**, and it is raised only when
    `parse_format` yields, somewhere in the format string, a spec that has the character class
    together with a width or a pad character, and some argument is an integer or a character
    (the converse, per formatter, is `char_padding_assert_raised`).
    Floating-point renderings may have any length: `formatFloat` appends whatever text the
    rendering function returns (the 64-byte buffer and the heap buffer of the repaired code are
    not part of this model; `Float.formatDouble`, C13, has them).  The hypothesis besides `WideOk`
    is libc's contract that `snprintf` reports a positive size (`Arg.LibcRenders`); where glibc
    breaks it — a precision of about 2^31 — the result would have to exceed the documented
    2^28-byte limit of `ST::string`, so that region is outside the property's domain;
    `outcomes_all_args` states what happens without the hypothesis. -/
theorem char_padding_only_assert (fmt : List Nat) (args : List Arg) (hfl : ∀ a ∈ args, a.LibcRenders)
    (hwd : ∀ a ∈ args, a.WideOk) (w : String) (h : run (some fmt) args = .assertFail w) :
    w = charPaddingMsg ∧
    ∃ p spec p' a, parseFormat fmt p = .ok (spec, p') ∧ a ∈ args ∧ a.IsIntegral = true ∧
      spec.digitClass = .chr ∧ (spec.minimumLength ≠ 0 ∨ spec.pad ≠ 0) := by
  obtain ⟨p, spec, p', hp, a, ha, hw⟩ := (run_sat fmt args hwd).of_assert h
  exact ⟨(formatType_sat a spec (hfl a ha) (hwd a ha)).of_assert hw, p, spec, p', a, hp, ha,
    (formatType_assert_iff a spec (hfl a ha) (hwd a ha)).mp ⟨w, hw⟩⟩

/-- conversely, a formatter handed such a spec does raise it (so the characterisation is exact) -/
theorem char_padding_assert_raised (a : Arg) (spec : FormatSpec)
    (h : a.IsIntegral = true ∧ spec.digitClass = .chr ∧ (spec.minimumLength ≠ 0 ∨ spec.pad ≠ 0)) :
    formatType a spec = .assertFail charPaddingMsg := by
  have ⟨hwd, hfl⟩ : a.WideOk ∧ a.LibcRenders := by
    cases a <;> first | exact ⟨trivial, trivial⟩ | exact absurd h.1 Bool.false_ne_true
  obtain ⟨w, hw⟩ := (formatType_assert_iff a spec hfl hwd).mpr h
  rw [hw, (formatType_sat a spec hfl hwd).of_assert hw]

/-- turning the rendered bytes into the returned `ST::string`: the text, `unicode_error`, or the documented size
    limit of `ST::string` (2^28 bytes); that `format_latin_1`, which converts the bytes from Latin-1, cannot fail
    except for the size limit is `toString_latin1_sat` -/
theorem toString_sat (e : Entry) (bytes : List Nat) :
    Sat (fun _ => True) (· = .unicodeError) (fun w => w = "String data buffer is too large" ∧ bytes.length ≥ hugeBufferSize)
      (toStringOf e bytes) := by
  cases e with
  | utf8 m => exact Lemmas.Utf.stringSet_sat m bytes
  | latin1 => exact Sat.mono (toString_latin1_sat bytes) (fun _ => id) (fun _ => False.elim) (fun _ => id)

/-- **outcomes of `ST::format`** (default or explicit validation) and `ST::format_latin_1`: a string, `bad_format`,
    `out_of_range`, `unicode_error`, the documented char-padding assertion, or — for a result of
    2^28 bytes or more — the documented size-limit assertion of `ST::string`.
    Floating-point renderings of any length are covered.  The size-limit assertion and the
    `Arg.LibcRenders` hypothesis delimit the same edge of the domain: a format call whose result
    would reach 2^28 bytes has no result to return (documented limit of `ST::string`, 256 Mi), and a
    precision ≥ 2^28 — let alone the ≈ 2^31 at which glibc's `snprintf` returns a negative value and
    the library stops with "Your libc doesn't support reporting format size" (st_formatter.h:462) —
    can only ask for such a result. -/
theorem outcomes (e : Entry) (fmt : List Nat) (args : List Arg) (hfl : ∀ a ∈ args, a.LibcRenders)
    (hwd : ∀ a ∈ args, a.WideOk) :
    Sat (fun _ => True) (fun e => e = .badFormat ∨ e = .outOfRange ∨ e = .unicodeError)
      (fun w => w = charPaddingMsg ∨
        (w = "String data buffer is too large" ∧ ∃ ev, run (some fmt) args = .ok ev ∧ (flatten ev).length ≥ hugeBufferSize))
      (runFormat e (some fmt) args) := by
  unfold runFormat
  refine Sat.bind ((run_sat fmt args hwd).trace.mono (fun _ => And.left) (fun _ => And.right) ?_) ?_
  · rintro w ⟨hr, -⟩
    exact Or.inl (char_padding_only_assert fmt args hfl hwd w hr).1
  · intro ev hr
    exact (toString_sat e (flatten ev)).mono (fun _ => id) (fun _ he => Or.inr (Or.inr he))
      (fun w h => Or.inr ⟨h.1, ev, hr, h.2⟩)

/-- with no argument supplied the only outcomes are output and `out_of_range` (in the code any
    specifier is `out_of_range` before it is even parsed, and pure literal text is output; which
    of the two happens when is not part of the statement) -/
theorem zero_args (fmt : List Nat) :
    (∃ ev, run (some fmt) [] = .ok ev) ∨ run (some fmt) [] = .throw .outOfRange := by
  obtain ⟨⟨ev, p, more⟩, h, _⟩ := (nextFormat_sat fmt 0 (Nat.zero_le _)).exists_ok
  simp only [run, runEvents, applyFormat, List.length_nil, if_true, h, Outcome.ok_bind]
  cases more with
  | false => exact Or.inl ⟨ev, rfl⟩
  | true => exact Or.inr rfl

/-! non-vacuity: each outcome is reachable -/
example : run (some [123, 125]) [.sint 32 5] = .ok [.appendChar 32 0, .append [53]] := by decide +kernel
example : run (some [123]) [.sint 32 5] = .throw .badFormat := by decide +kernel
example : run (some [123, 125, 123, 125]) [.sint 32 5] = .throw .outOfRange := by decide +kernel
example : run (some [123, 99, 49, 125]) [.sint 32 65] = .assertFail charPaddingMsg := by decide +kernel
example : runFormat (.utf8 .checkValidity) (some [128]) [] = .throw .unicodeError := by decide +kernel
/-- the re-scan after a `strtol` that consumed nothing: "{.}" has precision 0 -/
example : run (some [123, 46, 125]) [.str [97, 98]] = .ok [.append []] := by decide +kernel
example : (∀ a ∈ [Arg.sint 32 5, Arg.str [97]], a.LibcRenders) := by
  intro a ha; simp at ha; rcases ha with rfl | rfl <;> trivial
/-- wide text: `{}` of u"é" (U+00E9) renders its UTF-8 bytes; an unpaired surrogate is `unicode_error` -/
example : run (some [123, 125]) [.wide .utf16 .checkValidity [0xE9]] = .ok [.append [0xC3, 0xA9]] := by decide +kernel
example : run (some [123, 125]) [.wide .utf16 .checkValidity [0xD800]] = .throw .unicodeError := by decide +kernel
example : (Arg.wide .utf16 .checkValidity [0xE9, 0xD800]).WideOk := by
  refine ⟨Or.inl ⟨rfl, ?_⟩, by decide⟩
  intro x hx; simp at hx; omega
/-- a 100-byte floating-point rendering is output in full (it used to abort, defect 13) -/
example : run (some [123, 125]) [.float (fun _ _ _ => List.replicate 100 49)] = .ok [.append (List.replicate 100 49)] := by
  decide +kernel

end StVerif.Props.C10
