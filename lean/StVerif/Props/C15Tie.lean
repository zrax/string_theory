/- Tie of property C15 to the source: the theorems `translated function = model` (tools/gen_kernels.py regenerates
   StVerif/Generated/Kernels.lean from the C++ on every run).  Kept apart from Props/C15.lean so that a bridge that stops
   checking leaves the property's other theorems built and audited (DESIGN.md section 14). -/
import StVerif.Props.C15
import StVerif.Lemmas.KernelCodec

namespace StVerif.Props.C15
open StVerif.Codec

/-! In `Generated.Kernels.hex_decode / b64_decode / b64_decode_size` (include/st_codecs_priv.h) the `ST::string` argument
is the range `txt ++ [0]` (`c_str()`) with its `size()`, the output buffer is the flag "null pointer" and the list of
bytes stored, the value tables are the tables the functions declare. -/

/-- the translated decoders are the model's, for every text, every capacity and the null (size query) form: same return
    value, same bytes stored, no load outside the text with its terminating NUL, no table index out of range -/
theorem translated_decoders_are_model (txt : List Nat) (hb : ∀ b ∈ txt, b < 256) (hlen : txt.length < 2 ^ 28)
    (cap : Option Nat) (fuel : Nat) (hf : txt.length < fuel) :
    StVerif.Generated.Kernels.b64_decode_size (txt ++ [0]) txt.length 0 = .ok (b64DecodeSize txt) ∧
    StVerif.Generated.Kernels.hex_decode (txt ++ [0]) fuel txt.length cap.isNone (cap.getD 0)
      = .ok ((hexDecodeInto txt cap).ret, (hexDecodeInto txt cap).writes) ∧
    StVerif.Generated.Kernels.b64_decode (txt ++ [0]) fuel txt.length cap.isNone (cap.getD 0)
      = .ok ((b64DecodeInto txt cap).ret, (b64DecodeInto txt cap).writes) :=
  ⟨KernelBridge.b64_decode_size_eq txt hb hlen, KernelBridge.hex_decode_eq txt hb cap fuel hf,
   KernelBridge.b64_decode_eq txt hb hlen cap fuel hf⟩

/-- End to end, about the translated code alone: whatever text it is given and whatever it returns, the translated
    `hex_decode` / `b64_decode` never store more than `output_size` bytes into the caller's buffer -/
theorem translated_decoders_never_overrun (txt : List Nat) (hb : ∀ b ∈ txt, b < 256) (hlen : txt.length < 2 ^ 28)
    (cap : Nat) (fuel : Nat) (hf : txt.length < fuel) (ret : Int) (out : List Nat) :
    (StVerif.Generated.Kernels.hex_decode (txt ++ [0]) fuel txt.length false cap = .ok (ret, out) → out.length ≤ cap) ∧
    (StVerif.Generated.Kernels.b64_decode (txt ++ [0]) fuel txt.length false cap = .ok (ret, out) → out.length ≤ cap) := by
  constructor
  · intro h
    have e := KernelBridge.hex_decode_eq txt hb (some cap) fuel hf
    simp only [Option.isNone_some, Option.getD_some] at e
    rw [e] at h
    cases h
    exact hexDecodeInto_writes_le txt hb cap
  · intro h
    have e := KernelBridge.b64_decode_eq txt hb hlen (some cap) fuel hf
    simp only [Option.isNone_some, Option.getD_some] at e
    rw [e] at h
    cases h
    exact b64DecodeInto_writes_le txt hb cap

end StVerif.Props.C15
