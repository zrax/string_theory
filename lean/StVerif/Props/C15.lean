/-
  C15 — decoders accept exactly the valid encodings and never overrun the output buffer.
-/
import StVerif.Lemmas.CodecDecode

namespace StVerif.Props.C15
open StVerif.Codec StVerif.Lemmas.Codec
open StVerif.Spec

/-- what the caller-buffer hex decoder does on every text and every `output_size` -/
theorem hexDecodeInto_spec (txt : List Nat) (h : Bytes txt) (cap : Nat) :
    (Rfc4648.hexValid txt = true ∧ txt.length / 2 ≤ cap →
      ∃ out, hexDecodeInto txt (some cap) = { writes := out, ret := ((txt.length / 2 : Nat) : Int) } ∧ out.length = txt.length / 2) ∧
    (¬ (Rfc4648.hexValid txt = true ∧ txt.length / 2 ≤ cap) →
      ∃ w, hexDecodeInto txt (some cap) = { writes := w, ret := -1 } ∧ w.length ≤ cap) := by
  rw [hexDecodeInto_some, hexValid_iff txt h]
  constructor
  · intro ⟨⟨hl, hok⟩, hc⟩
    rw [if_pos ⟨hl, hc⟩, if_pos hok]
    exact ⟨_, rfl, (hexDecPairs_length txt).2 hok⟩
  · intro hn
    by_cases hlc : txt.length % 2 = 0 ∧ txt.length / 2 ≤ cap
    · rw [if_pos hlc, if_neg (fun hok => hn ⟨⟨hlc.1, hok⟩, hlc.2⟩)]
      exact ⟨_, rfl, Nat.le_trans ((hexDecPairs_length txt).1) hlc.2⟩
    · rw [if_neg hlc]
      exact ⟨[], rfl, Nat.zero_le _⟩

/-- the caller-buffer form never writes more than `output_size` bytes -/
theorem hexDecodeInto_writes_le (txt : List Nat) (_h : Bytes txt) (cap : Nat) :
    (hexDecodeInto txt (some cap)).writes.length ≤ cap := by
  rw [hexDecodeInto_some]
  split
  · exact Nat.le_trans ((hexDecPairs_length txt).1) (by omega)
  · exact Nat.zero_le _

/-- null output: the decoded length implied by the input's length, −1 for an odd length -/
theorem hexDecode_null_query (txt : List Nat) :
    hexDecodeInto txt none = { writes := [], ret := if txt.length % 2 = 0 then ((txt.length / 2 : Nat) : Int) else -1 } := by
  unfold hexDecodeInto
  by_cases hl : txt.length % 2 = 0 <;> simp [hl]

/-- the allocating form succeeds exactly on valid text and otherwise throws `codec_error`
    (in particular its length assertion is unreachable) -/
theorem hexDecodeAlloc_accepts_iff (txt : List Nat) (h : Bytes txt) :
    (Rfc4648.hexValid txt = true → ∃ out, hexDecodeAlloc txt = .ok out ∧ out.length = txt.length / 2 ∧
        hexDecodeInto txt (some (txt.length / 2)) = { writes := out, ret := ((txt.length / 2 : Nat) : Int) }) ∧
    (Rfc4648.hexValid txt = false → hexDecodeAlloc txt = .throw .codecError) := by
  rw [hexDecodeAlloc_eq, hexDecodeInto_some]
  constructor
  · intro hv
    obtain ⟨hl, hok⟩ := (hexValid_iff txt h).mp hv
    rw [if_pos ⟨hl, hok⟩, if_pos ⟨hl, Nat.le_refl _⟩, if_pos hok]
    exact ⟨_, rfl, (hexDecPairs_length txt).2 hok, rfl⟩
  · intro hv
    rw [if_neg (fun hh => by rw [(hexValid_iff txt h).mpr hh] at hv; cases hv)]

theorem b64_bad_length (txt : List Nat) (h : txt.length % 4 ≠ 0) : b64DecodeSize txt = -1 := by
  rw [b64DecodeSize_eq, if_neg h]

theorem b64_empty : b64DecodeSize [] = 0 := by decide

/-- on valid text the size query is the RFC length (so the loose reading of the query on
    invalid text, used by the correspondence check, coincides with the strict one where it matters) -/
theorem sizeQuery_eq_decodedLength (txt : List Nat) (hv : Rfc4648.b64Valid txt = true) (_h : Bytes txt) :
    Rfc4648.b64SizeQuery txt = Rfc4648.b64DecodedLength txt :=
  b64SizeQuery_eq_decodedLength txt hv

/-- what the caller-buffer base64 decoder does on every text and every `output_size` -/
theorem b64DecodeInto_spec (txt : List Nat) (h : Bytes txt) (cap : Nat) :
    (Rfc4648.b64Valid txt = true ∧ Rfc4648.b64DecodedLength txt ≤ cap →
      ∃ out, b64DecodeInto txt (some cap) = { writes := out, ret := ((Rfc4648.b64DecodedLength txt : Nat) : Int) } ∧
        out.length = Rfc4648.b64DecodedLength txt) ∧
    (¬ (Rfc4648.b64Valid txt = true ∧ Rfc4648.b64DecodedLength txt ≤ cap) →
      ∃ w, b64DecodeInto txt (some cap) = { writes := w, ret := -1 } ∧ w.length ≤ cap) := by
  rcases b64_text_cases txt with hl | rfl | ⟨body, c0, c1, c2, c3, m, rfl, hb⟩
  · rw [b64DecodeInto, b64DecodeSize_eq, if_neg hl]
    exact ⟨fun ⟨hv, _⟩ => absurd (b64Valid_length hv) hl, fun _ => ⟨[], rfl, Nat.zero_le _⟩⟩
  · exact ⟨fun _ => ⟨[], rfl, rfl⟩, fun hn => absurd ⟨by decide, Nat.zero_le _⟩ hn⟩
  · obtain ⟨w, hw, hwl, hwd⟩ := b64DecodeInto_split c0 c1 c2 c3 cap hb
    have hacc := accept_iff_valid hb h
    rw [hw]
    constructor
    · intro ⟨hv, hc⟩
      rw [hv, Bool.and_eq_true] at hacc
      rw [b64DecodedLength_split hb hv] at hc ⊢
      rw [if_pos ⟨hc, hacc⟩, hwd hc hacc.1 hacc.2]
      exact ⟨_, rfl, by rw [List.length_append, (decBody_length m body hb).2 hacc.1]⟩
    · intro hn
      refine ⟨w, ?_, hwl⟩
      rw [if_neg]
      intro ⟨hc, hok, hfin⟩
      rw [hok, hfin] at hacc
      rw [← b64DecodedLength_split hb hacc.symm] at hc
      exact hn ⟨hacc.symm, hc⟩

/-- the caller-buffer form never writes more than `output_size` bytes -/
theorem b64DecodeInto_writes_le (txt : List Nat) (h : Bytes txt) (cap : Nat) :
    (b64DecodeInto txt (some cap)).writes.length ≤ cap := by
  have hs := b64DecodeInto_spec txt h cap
  by_cases hv : Rfc4648.b64Valid txt = true ∧ Rfc4648.b64DecodedLength txt ≤ cap
  · obtain ⟨out, he, hl⟩ := hs.1 hv; rw [he]; simp only; omega
  · obtain ⟨w, he, hl⟩ := hs.2 hv; rw [he]; exact hl

/-- null output: −1 for a length that is not a multiple of four, otherwise the length implied by the
    input's length and its trailing `=` -/
theorem b64Decode_null_query (txt : List Nat) :
    b64DecodeInto txt none =
      { writes := [], ret := if txt.length % 4 = 0 then ((Rfc4648.b64SizeQuery txt : Nat) : Int) else -1 } := by
  rw [b64DecodeInto, b64DecodeSize_eq]

/-- the allocating form succeeds exactly on valid text and otherwise throws `codec_error`
    (in particular its length assertion is unreachable) -/
theorem b64DecodeAlloc_accepts_iff (txt : List Nat) (h : Bytes txt) :
    (Rfc4648.b64Valid txt = true → ∃ out, b64DecodeAlloc txt = .ok out ∧ out.length = Rfc4648.b64DecodedLength txt) ∧
    (Rfc4648.b64Valid txt = false → b64DecodeAlloc txt = .throw .codecError) := by
  rcases b64_text_cases txt with hl | rfl | ⟨body, c0, c1, c2, c3, m, rfl, hb⟩
  · refine ⟨fun hv => absurd (b64Valid_length hv) hl, fun _ => ?_⟩
    rw [b64DecodeAlloc, b64DecodeSize_eq, if_neg hl]
    rfl
  · exact ⟨fun _ => ⟨[], by decide, rfl⟩, fun hn => absurd hn (by decide)⟩
  · have hacc := accept_iff_valid hb h
    rw [b64DecodeAlloc_split c0 c1 c2 c3 hb]
    constructor
    · intro hv
      rw [hv, Bool.and_eq_true] at hacc
      rw [if_pos hacc, b64DecodedLength_split hb hv]
      exact ⟨_, rfl, by rw [List.length_append, (decBody_length m body hb).2 hacc.1]⟩
    · intro hv
      rw [if_neg (fun hok => by rw [hok.1, hok.2, hv] at hacc; cases hacc)]

/-- neither decoder ever reads the text beyond its terminating NUL, whatever the output size -/
theorem decoders_never_oob (txt : List Nat) (h : Bytes txt) (cap : Option Nat) :
    (hexDecodeInto txt cap).oob = false ∧ (b64DecodeInto txt cap).oob = false := by
  cases cap with
  | none => rw [hexDecode_null_query, b64Decode_null_query]; exact ⟨rfl, rfl⟩
  | some cap =>
    constructor
    · rw [hexDecodeInto_some]
      split <;> rfl
    · have hs := b64DecodeInto_spec txt h cap
      by_cases hv : Rfc4648.b64Valid txt = true ∧ Rfc4648.b64DecodedLength txt ≤ cap
      · obtain ⟨out, he, _⟩ := hs.1 hv; rw [he]
      · obtain ⟨w, he, _⟩ := hs.2 hv; rw [he]

/-! non-vacuity: the hypotheses are met by concrete non-trivial texts -/
example : Rfc4648.b64Valid [81, 85, 74, 68, 81, 85, 61, 61] = true ∧ Rfc4648.b64DecodedLength [81, 85, 74, 68, 81, 85, 61, 61] = 4 := by decide +kernel
example : b64DecodeAlloc [81, 85, 74, 68, 81, 85, 61, 61] = .ok [65, 66, 67, 65] := by decide +kernel
example : b64DecodeAlloc [81, 85, 61, 68] = .throw .codecError ∧ Rfc4648.b64Valid [81, 85, 61, 68] = false := by decide +kernel
example : hexDecodeAlloc [52, 65, 54, 98] = .ok [0x4A, 0x6B] := by decide +kernel

end StVerif.Props.C15
