/-
  C05 — Buffers keep size, content, terminator and exclusive ownership over any history.

  Everything is stated for an arbitrary small-buffer limit `L > 0`, an arbitrary pool, every
  operation of `Pool.Op` and every history (induction over the history, no bound on its length,
  on the number of objects or on the sizes).
-/
import StVerif.Lemmas.PoolStep

namespace StVerif.Props.C05
open StVerif.Pool StVerif.Spec.Store

/-- the empty pool satisfies the invariant -/
theorem inv_init (L : Nat) (hL : 0 < L) : Inv (Pool.init L) := Pool.inv_init L hL

/-- **every operation keeps the invariant and completes**: under its precondition (constructor targets are dead
    ids, every other named object is alive, stores stay within `size()`) and with no allocation fault scheduled,
    the do-block of the member function ends in `.ok` — so none of the outcomes `badFree`, `doubleFree`,
    `useAfterFree`, `oob` and no exception — in a state satisfying the invariant again. -/
theorem inv_step {p : Pool} (hI : Inv p) (hF : p.failAt = none) (op : Op) (hpre : pre op p) :
    ∃ p', op.run p = .ok () p' ∧ Inv p' ∧ p'.failAt = none := by
  obtain ⟨p', h1, h2, _⟩ := run_ok hI hF op hpre
  exact ⟨p', h1, h2.inv, h2.failAt.trans hF⟩

/-- whatever the fault schedule, no operation ever ends in a `fault` (bad free, double free, use after free,
    out-of-bounds access): it completes or throws `bad_alloc` -/
theorem never_faults {p : Pool} (hI : Inv p) (op : Op) (hpre : pre op p) :
    (∃ p', op.run p = .ok () p' ∧ Inv p') ∨ (∃ p', op.run p = .throw .badAlloc p' ∧ Inv p') := by
  rcases run_spec hI op hpre with ⟨p', h1, h2, _⟩ | ⟨p', h1, _, h2, _⟩
  · exact Or.inl ⟨p', h1, h2.inv⟩
  · exact Or.inr ⟨p', h1, h2.inv⟩

/-- a completed operation changes nothing but its operands: every other object is the very same object (same pointer,
    same size, same in-object array) and reports the same value -/
theorem others_untouched {p p' : Pool} (hI : Inv p) (op : Op) (hpre : pre op p) (h : op.run p = .ok () p') :
    ∀ x, ¬ op.T x → p'.objs x = p.objs x ∧ view p' x = view p x :=
  fun x hx => ⟨(run_post hI op hpre h).1.objs x hx, (run_post hI op hpre h).1.view x hx⟩

/-- **one step of the machine is one step of the specification**: if each live object reports the size and exactly
    the specified elements of the last value given to it (a moved-from object: some value) before the operation,
    it does so afterwards -/
theorem refines {s : Store} {p p' : Pool} (hR : R s p) (hI : Inv p) (op : Op) (hpre : pre op p)
    (h : op.run p = .ok () p') : R (step s op) p' :=
  refines_step hR op hpre (run_post hI op hpre h).1 (run_post hI op hpre h).2

/-- **the invariant holds after every history** -/
theorem inv_reachable {L : Nat} (hL : 0 < L) {s : Store} {p : Pool} (h : Reach L s p) : Inv p ∧ p.failAt = none :=
  ⟨(reach_sound hL h).1, (reach_sound hL h).2.1⟩

/-- a history can always be continued by any operation whose precondition holds: it completes (no fault, no throw) -/
theorem progress {L : Nat} (hL : 0 < L) {s : Store} {p : Pool} (h : Reach L s p) (op : Op) (hpre : pre op p) :
    ∃ p', op.run p = .ok () p' ∧ Reach L (step s op) p' := by
  obtain ⟨hI, hF⟩ := inv_reachable hL h
  obtain ⟨p', h1, _⟩ := inv_step hI hF op hpre
  exact ⟨p', h1, Reach.step op h hpre h1⟩

/-- after every history, the pool refines the specification store of that history -/
theorem refines_reachable {L : Nat} (hL : 0 < L) {s : Store} {p : Pool} (h : Reach L s p) : R s p :=
  (reach_sound hL h).2.2.2

/-- what `R` says, spelled out through the model's own observation function: after every history each live
    object can be observed without fault, its `size()` and elements are those of the specified value (where
    specified), a NUL follows the last element, short contents are inside the object and long contents in a
    heap block; objects the specification calls dead are dead -/
theorem observed_value {L : Nat} (hL : 0 < L) {s : Store} {p : Pool} (h : Reach L s p) (o : Nat) :
    match s o with
    | none => p.objs o = none
    | some v => ∃ ob, observe o p = .ok ob p ∧ Matches v (ob.size, ob.units) ∧ ob.units.length = ob.size ∧ ob.terminator = 0 ∧
        (ob.ownStorage = true ↔ ob.size < L) ∧ (ob.block.isSome = true ↔ L ≤ ob.size) := by
  obtain ⟨hI, _, hLp, hR⟩ := reach_sound hL h
  have hR := hR o
  cases hs : s o with
  | none =>
    rw [hs] at hR
    cases hv : view p o with
    | none => exact view_eq_none.1 hv
    | some w => rw [hv] at hR; exact hR.elim
  | some v =>
    rw [hs] at hR
    cases hb : p.objs o with
    | none => rw [view_eq_none.2 hb] at hR; exact hR.elim
    | some b =>
      obtain ⟨ob, h1, h2, h3, h4, h5, h6, h7⟩ := observe_spec hI hb
      rw [h2] at hR
      exact ⟨ob, h1, hR, h4, h5, by rw [h6, h3, hLp], by rw [h7, h3, hLp]⟩

/-- the data pointers `m_chars` of two distinct live objects differ, short or long: in particular two long objects
    never use the same heap block -/
theorem exclusive {p : Pool} (hI : Inv p) {o₁ o₂ : Nat} {b₁ b₂ : Buf} (h₁ : p.objs o₁ = some b₁) (h₂ : p.objs o₂ = some b₂)
    (hne : o₁ ≠ o₂) : b₁.chars ≠ b₂.chars := by
  intro e
  -- the pointer of a short object names the object, that of a long one a block the object owns
  rcases hI.storage h₁ with ⟨_, c₁, _⟩ | ⟨_, k₁, _, c₁, _, _, _, own₁⟩
  · rcases hI.storage h₂ with ⟨_, c₂, _⟩ | ⟨_, k₂, _, c₂, _⟩
    · rw [c₁, c₂] at e; cases e; exact hne rfl
    · rw [c₁, c₂] at e; cases e
  · rcases hI.storage h₂ with ⟨_, c₂, _⟩ | ⟨_, k₂, _, c₂, _, _, _, own₂⟩
    · rw [c₁, c₂] at e; cases e
    · rw [c₁, c₂] at e; cases e
      exact hne (hI.uniq o₁ o₂ k₁ own₁ own₂)

/-- **no leak, no double free**: destroying every live object of a state satisfying the invariant, in any order
    (`os` lists each live object exactly once), never faults and leaves no object and an empty heap -/
theorem no_leak {p : Pool} (hI : Inv p) (os : List Nat) (hnd : os.Nodup) (hall : ∀ o, (p.objs o).isSome = true ↔ o ∈ os) :
    ∃ p', destroyAll os p = .ok () p' ∧ (∀ o, p'.objs o = none) ∧ (∀ k, p'.heap k = none) := by
  obtain ⟨p', h1, h2, h3, _⟩ := destroyAll_spec hI os hnd hall
  exact ⟨p', h1, h2, h3⟩

/-- after every history only finitely many objects are alive … -/
theorem reachable_finite {L : Nat} {s : Store} {p : Pool} (hL : 0 < L) (h : Reach L s p) :
    ∃ os : List Nat, os.Nodup ∧ ∀ o, (p.objs o).isSome = true ↔ o ∈ os := by
  have hsup : ∃ cs : List Nat, ∀ o, (p.objs o).isSome = true → o ∈ cs := by
    induction h with
    | init => exact ⟨[], fun o ho => by simp [Pool.init] at ho⟩
    | step op hprev hpre hrun ih =>
      obtain ⟨cs, hcs⟩ := ih
      exact ⟨_, (run_post (inv_reachable hL hprev).1 op hpre hrun).1.live_sub op.T_ids hcs⟩
  obtain ⟨cs, hcs⟩ := hsup
  exact exact_live_list p cs hcs

/-- … and destroying them all, in any order, leaves an empty heap without any fault -/
theorem no_leak_reachable {L : Nat} {s : Store} {p : Pool} (hL : 0 < L) (h : Reach L s p) (os : List Nat) (hnd : os.Nodup)
    (hall : ∀ o, (p.objs o).isSome = true ↔ o ∈ os) :
    ∃ p', destroyAll os p = .ok () p' ∧ (∀ o, p'.objs o = none) ∧ (∀ k, p'.heap k = none) :=
  no_leak (inv_reachable hL h).1 os hnd hall

/-- **a moved-from object is a valid, exclusively-owning object**: after the move constructor or move assignment
    (self-move-assignment `o = src` included) the source is alive, satisfies the per-object invariant inside a
    state satisfying the global invariant, and can be read; hence (by `inv_step`) it can be assigned to, cleared,
    re-allocated and destroyed like any other object. -/
theorem moved_from_valid {p p' : Pool} (hI : Inv p) (o src : Nat) (op : Op) (hop : op = .ctorMove o src ∨ op = .assignMove o src)
    (hpre : pre op p) (h : op.run p = .ok () p') :
    Inv p' ∧ ∃ b, p'.objs src = some b ∧ ObjOk p'.L p'.heap src b ∧
      (∃ ob, observe src p' = .ok ob p' ∧ ob.terminator = 0 ∧ ob.units.length = ob.size) ∧
      pre (.dtor src) p' ∧ pre (.clear src) p' ∧ pre (.assignCopy src o) p' ∧ pre (.assignMove src o) p' ∧
      pre (.allocate src 0) p' := by
  obtain ⟨hS, h3⟩ := run_post hI op hpre h
  -- both operands are alive afterwards: each reports what a live object reported, or the empty value
  have halive : (∃ b, p'.objs src = some b) ∧ ∃ b', p'.objs o = some b' := by
    rcases hop with rfl | rfl
    · obtain ⟨_, c, hc⟩ := hpre
      exact ⟨objs_some_of_view h3.2, objs_some_of_view (h3.1.trans (view_of_objs hc))⟩
    · obtain ⟨⟨b, hb⟩, c, hc⟩ := hpre
      exact ⟨objs_some_of_view (h3.2.trans (view_of_objs hb)), objs_some_of_view (h3.1.trans (view_of_objs hc))⟩
  obtain ⟨⟨b, hb⟩, b', hb'⟩ := halive
  exact ⟨hS.inv, b, hb, hS.inv.obj src b hb, hS.inv.readable hb, ⟨b, hb⟩, ⟨b, hb⟩, ⟨⟨b, hb⟩, b', hb'⟩, ⟨⟨b, hb⟩, b', hb'⟩, ⟨b, hb⟩⟩

def checkPre : Op → Pool → Bool
  | .ctorDefault o, p | .ctorUnits o _, p => (p.objs o).isNone
  | .ctorCopy o s, p | .ctorMove o s, p => (p.objs o).isNone && (p.objs s).isSome
  | .dtor o, p | .clear o, p | .allocate o _, p | .allocateFill o _ _, p => (p.objs o).isSome
  | .assignCopy o s, p | .assignMove o s, p => (p.objs o).isSome && (p.objs s).isSome
  | .writeData o a us, p => match p.objs o with | some b => decide (a + us.length ≤ b.size) | none => false

theorem checkPre_sound (op : Op) (p : Pool) (h : checkPre op p = true) : pre op p := by
  cases op <;> simp only [checkPre, Bool.and_eq_true, Option.isNone_iff_eq_none, Option.isSome_iff_exists] at h
  case writeData o a us =>
    cases hb : p.objs o with
    | none => rw [hb] at h; cases h
    | some b => rw [hb] at h; exact ⟨b, hb, by simpa using h⟩
  all_goals exact h

def runChecked : List Op → Pool → Option Pool
  | [], p => some p
  | op :: ops, p => if checkPre op p then (match op.run p with | .ok _ p' => runChecked ops p' | _ => none) else none

theorem runChecked_reach {L : Nat} (ops : List Op) {s : Store} {p p' : Pool} (h : Reach L s p)
    (hr : runChecked ops p = some p') : Reach L (ops.foldl step s) p' := by
  induction ops generalizing s p with
  | nil => simp only [runChecked, Option.some.injEq] at hr; subst hr; exact h
  | cons op ops ih =>
    simp only [runChecked] at hr
    split at hr
    · rename_i hc
      split at hr
      · rename_i u p₁ hrun
        exact ih (Reach.step op h (checkPre_sound op p hc) hrun) hr
      · cases hr
    · cases hr

def report (p : Pool) (n : Nat) : List (Option (Nat × List Nat × Nat × Bool)) :=
  (List.range n).map fun o => match observe o p with
    | .ok ob _ => some (ob.size, ob.units, ob.terminator, ob.ownStorage)
    | _ => none

/-- `L = 4`: a short buffer is copied, grown across the limit by copy assignment from a long one, moved out of,
    shrunk again by `allocate`, and everything is destroyed -/
def history₁ : List Op :=
  [.ctorUnits 0 [1, 2, 3], .ctorUnits 1 [5, 6, 7, 8, 9], .ctorCopy 2 0, .assignCopy 2 1, .assignMove 0 2, .ctorMove 3 1,
   .allocateFill 0 2 7, .allocate 3 6, .writeData 3 1 [4, 4], .assignMove 3 3, .clear 2, .dtor 1]

example : (runChecked history₁ (Pool.init 4)).isSome = true := by decide +kernel

example : ((runChecked history₁ (Pool.init 4)).map fun p => report p 4) =
    some [some (2, [7, 7], 0, true), none, some (0, [], 0, true), some (6, [205, 4, 4, 205, 205, 205], 0, false)] := by decide +kernel

/-- … so the hypotheses of the theorems are satisfiable -/
example : ∃ p, runChecked history₁ (Pool.init 4) = some p ∧ Inv p ∧ R (history₁.foldl step Store.empty) p := by
  cases h : runChecked history₁ (Pool.init 4) with
  | none => exact absurd h (by decide +kernel)
  | some p =>
    have hr := runChecked_reach history₁ Reach.init h
    exact ⟨p, rfl, (inv_reachable (by decide) hr).1, refines_reachable (by decide) hr⟩

/-- `L = 3`, both directions in one object: long → short (copy assignment), short → long (allocate + fill),
    long → long (move assignment between long objects), then all destroyed: heap empty -/
def history₂ : List Op :=
  [.ctorUnits 0 [1, 2, 3, 4], .ctorDefault 1, .assignCopy 0 1, .allocateFill 0 5 9, .ctorUnits 2 [8, 8, 8], .assignMove 0 2,
   .assignCopy 1 0, .assignCopy 1 1]

example : ((runChecked history₂ (Pool.init 3)).map fun p => report p 3) =
    some [some (3, [8, 8, 8], 0, false), some (3, [8, 8, 8], 0, false), some (5, [9, 9, 9, 9, 9], 0, false)] := by decide +kernel

example : ((runChecked history₂ (Pool.init 3)).map fun p =>
      match destroyAll [2, 0, 1] p with
      | .ok _ p' => (List.range p'.next).all (fun k => (p'.heap k).isNone) && (List.range 3).all (fun o => (p'.objs o).isNone)
      | _ => false) = some true := by decide +kernel

/-- a precondition that fails is detected (the checker is not vacuous): using a destroyed object -/
example : runChecked [.ctorDefault 0, .dtor 0, .clear 0] (Pool.init 4) = none := by decide +kernel

end StVerif.Props.C05
