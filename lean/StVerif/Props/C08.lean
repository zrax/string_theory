/-
  C08 — Slicing returns the clamped byte range for every position, count and separator.

  Vocabulary: `substr`, `left`, `right`, `trimLeft`, `trimRight`, `trim`, `beforeFirst`,
  `afterFirst`, `beforeLast`, `afterLast` are the models of the members (Model/Slice.lean, the
  repaired tree); a result `Res` carries the returned bytes and the number of units the call asked
  of `operator new[]`.  `Sep` is the overload form of a separator (`char`, `const char*`,
  `ST::string`), `Sep.bytes` the bytes it denotes.  `Spec.Slice.*` is the Spec (take / drop /
  dropWhile / least and greatest occurrence).  Subjects are arbitrary lists (any bytes, embedded NUL
  included) shorter than 2^63; `start` ranges over the whole `ST_ssize_t` range and `count` / `n`
  over all of `Nat` (so the whole `size_t` range and beyond).
-/
import StVerif.Lemmas.Slice
import StVerif.Lemmas.SliceSep

namespace StVerif.Props.C08
open StVerif.Slice StVerif.Search StVerif.Lemmas.Slice
open StVerif.Spec.Search (occursAt window)

def bytesOf (o : Outcome Res) : Outcome (List Nat) := o.map Res.bytes

theorem good_bytes {s want : List Nat} {o : Outcome Res} (h : Good s want o) : bytesOf o = .ok want := by
  obtain ⟨a, e, _⟩ := h; rw [e]; rfl

theorem good_alloc {s want : List Nat} {o : Outcome Res} (h : Good s want o) :
    ∀ r, o = .ok r → r.alloc ≤ s.length + 1 := by
  obtain ⟨a, e, ha⟩ := h
  intro r hr
  rw [e] at hr
  cases hr
  exact ha

/-- `substr(start, count)` returns the bytes `[start, start+count)` clipped to the string, a negative
    start counting from the end and a start beyond the end giving the empty string — for every start
    of the signed range and every count (those within `start` of `SIZE_MAX` included) -/
theorem substr_eq_spec (s : List Nat) (start : Int) (count : Nat) (hs : s.length < 2^63)
    (h0 : -(2^63 : Int) ≤ start) (h1 : start < 2^63) :
    bytesOf (substr s start count) = .ok (Spec.Slice.substr s start count) :=
  good_bytes (substr_good s start count hs h0 h1)

/-- `left(n)` is the first `min n size` bytes, for every `n` -/
theorem left_eq (s : List Nat) (n : Nat) (hs : s.length < 2^63) :
    bytesOf (left s n) = .ok (Spec.Slice.left s n) := good_bytes (left_good s n hs)

/-- `right(n)` is the last `min n size` bytes, for every `n` (`size < n < 2·size` and `n` near
    `SIZE_MAX` included) -/
theorem right_eq (s : List Nat) (n : Nat) (hs : s.length < 2^63) :
    bytesOf (right s n) = .ok (Spec.Slice.right s n) := good_bytes (right_good s n hs)

/-! ### trims (`charset` is the memory at the `const char*`; the set is the bytes before its first NUL) -/

theorem trimLeft_eq (s charset : List Nat) (hs : s.length < 2^63) :
    bytesOf (trimLeft s charset) = .ok (Spec.Slice.trimLeft s (Spec.Slice.cString charset)) :=
  good_bytes (trimLeft_good s charset hs)

theorem trimRight_eq (s charset : List Nat) (hs : s.length < 2^63) :
    bytesOf (trimRight s charset) = .ok (Spec.Slice.trimRight s (Spec.Slice.cString charset)) :=
  good_bytes (trimRight_good s charset hs)

theorem trim_eq (s charset : List Nat) (hs : s.length < 2^63) :
    bytesOf (trim s charset) = .ok (Spec.Slice.trim s (Spec.Slice.cString charset)) :=
  good_bytes (trim_good s charset hs)

/-- the default argument `ST_WHITESPACE` is the set the Spec calls whitespace -/
theorem whitespace_set : Spec.Slice.cString whitespace = Spec.Slice.whitespace := by decide

theorem beforeFirst_eq (cs : CaseMode) (s : List Nat) (sep : Sep) (hs : s.length < 2^63) :
    bytesOf (beforeFirst cs s sep) = .ok (Spec.Slice.beforeFirst cs s sep.bytes) :=
  good_bytes (beforeFirst_good cs s sep hs)

theorem afterFirst_eq (cs : CaseMode) (s : List Nat) (sep : Sep) (hs : s.length < 2^63) :
    bytesOf (afterFirst cs s sep) = .ok (Spec.Slice.afterFirst cs s sep.bytes) :=
  good_bytes (afterFirst_good cs s sep hs)

theorem beforeLast_eq (cs : CaseMode) (s : List Nat) (sep : Sep) (hs : s.length < 2^63) :
    bytesOf (beforeLast cs s sep) = .ok (Spec.Slice.beforeLast cs s sep.bytes) :=
  good_bytes (beforeLast_good cs s sep hs)

theorem afterLast_eq (cs : CaseMode) (s : List Nat) (sep : Sep) (hs : s.length < 2^63) :
    bytesOf (afterLast cs s sep) = .ok (Spec.Slice.afterLast cs s sep.bytes) :=
  good_bytes (afterLast_good cs s sep hs)

/-- whenever the separator occurs, `before_first ++ (the occurrence) ++ after_first` is the original
    string, the occurrence being the first one; in the case-sensitive mode the occurrence is the
    separator itself -/
theorem reassemble_first (cs : CaseMode) (s : List Nat) (sep : Sep) (hs : s.length < 2^63)
    (hocc : Spec.Slice.occurs cs s sep.bytes = true) :
    ∃ b a i, bytesOf (beforeFirst cs s sep) = .ok b ∧ bytesOf (afterFirst cs s sep) = .ok a ∧
      b ++ window s i sep.bytes.length ++ a = s ∧ b.length = i ∧
      occursAt cs s sep.bytes i ∧ (∀ j, j < i → ¬ occursAt cs s sep.bytes j) ∧
      (cs = .sensitive → b ++ sep.bytes ++ a = s) := by
  unfold Spec.Slice.occurs at hocc
  cases h : Spec.Slice.firstOcc cs s sep.bytes with
  | none => rw [h] at hocc; cases hocc
  | some i =>
    obtain ⟨_, ho, hm⟩ := firstOcc_some h
    have hb := beforeFirst_eq cs s sep hs
    have ha := afterFirst_eq cs s sep hs
    simp only [Spec.Slice.beforeFirst, Spec.Slice.afterFirst, h] at hb ha
    obtain ⟨e1, e2, e3⟩ := reassemble_at ho
    exact ⟨_, _, i, hb, ha, e1, e2, ho, hm, e3⟩

/-- the same for `before_last` / `after_last` and the last occurrence -/
theorem reassemble_last (cs : CaseMode) (s : List Nat) (sep : Sep) (hs : s.length < 2^63)
    (hocc : Spec.Slice.occurs cs s sep.bytes = true) :
    ∃ b a i, bytesOf (beforeLast cs s sep) = .ok b ∧ bytesOf (afterLast cs s sep) = .ok a ∧
      b ++ window s i sep.bytes.length ++ a = s ∧ b.length = i ∧
      occursAt cs s sep.bytes i ∧ (∀ j, i < j → ¬ occursAt cs s sep.bytes j) ∧
      (cs = .sensitive → b ++ sep.bytes ++ a = s) := by
  cases h : Spec.Slice.lastOcc cs s sep.bytes with
  | none => rw [Spec.Slice.occurs, (lastOcc_eq_none_iff cs s sep.bytes).1 h] at hocc; cases hocc
  | some i =>
    obtain ⟨_, ho, hm⟩ := lastOcc_some h
    have hb := beforeLast_eq cs s sep hs
    have ha := afterLast_eq cs s sep hs
    simp only [Spec.Slice.beforeLast, Spec.Slice.afterLast, h] at hb ha
    obtain ⟨e1, e2, e3⟩ := reassemble_at ho
    exact ⟨_, _, i, hb, ha, e1, e2, ho, hm, e3⟩

/-- when the separator does not occur (an empty separator never does): `before_first` and
    `after_last` return the whole string, `after_first` and `before_last` the empty string -/
theorem absent_sep (cs : CaseMode) (s : List Nat) (sep : Sep) (hs : s.length < 2^63)
    (habs : Spec.Slice.occurs cs s sep.bytes = false) :
    bytesOf (beforeFirst cs s sep) = .ok s ∧ bytesOf (afterFirst cs s sep) = .ok [] ∧
    bytesOf (beforeLast cs s sep) = .ok [] ∧ bytesOf (afterLast cs s sep) = .ok s := by
  have hf : Spec.Slice.firstOcc cs s sep.bytes = none := by
    rwa [Spec.Slice.occurs, Option.isSome_eq_false_iff, Option.isNone_iff_eq_none] at habs
  have hl := (lastOcc_eq_none_iff cs s sep.bytes).2 hf
  have h1 := beforeFirst_eq cs s sep hs
  have h2 := afterFirst_eq cs s sep hs
  have h3 := beforeLast_eq cs s sep hs
  have h4 := afterLast_eq cs s sep hs
  simp only [Spec.Slice.beforeFirst, Spec.Slice.afterFirst, hf] at h1 h2
  simp only [Spec.Slice.beforeLast, Spec.Slice.afterLast, hl] at h3 h4
  exact ⟨h1, h2, h3, h4⟩

/-- an empty separator (`""`, a null pointer, an empty `ST::string`) does not occur -/
theorem empty_sep_absent (cs : CaseMode) (s : List Nat) : Spec.Slice.occurs cs s [] = false := by
  unfold Spec.Slice.occurs Spec.Slice.firstOcc; rfl

/-- the char, const char* and ST::string forms of a separator give identical results: the four
    functions depend on the argument only through the bytes it denotes.  In particular
    `.char c` ≍ `.str [c]`, `.cstr (some p)` ≍ `.str (bytes of p before its first NUL)`, and
    `.char c` ≍ `.cstr (some [c])` for `c ≠ 0` (see `forms_bytes`). -/
theorem sep_forms_agree (cs : CaseMode) (s : List Nat) (sep sep' : Sep) (hs : s.length < 2^63)
    (hb : sep.bytes = sep'.bytes) :
    bytesOf (beforeFirst cs s sep) = bytesOf (beforeFirst cs s sep') ∧
    bytesOf (afterFirst cs s sep) = bytesOf (afterFirst cs s sep') ∧
    bytesOf (beforeLast cs s sep) = bytesOf (beforeLast cs s sep') ∧
    bytesOf (afterLast cs s sep) = bytesOf (afterLast cs s sep') := by
  rw [beforeFirst_eq cs s sep hs, beforeFirst_eq cs s sep' hs, afterFirst_eq cs s sep hs, afterFirst_eq cs s sep' hs,
    beforeLast_eq cs s sep hs, beforeLast_eq cs s sep' hs, afterLast_eq cs s sep hs, afterLast_eq cs s sep' hs, hb]
  exact ⟨rfl, rfl, rfl, rfl⟩

theorem forms_bytes (c : Nat) (p : List Nat) :
    (Sep.char c).bytes = (Sep.str [c]).bytes ∧
    (Sep.cstr (some p)).bytes = (Sep.str (Spec.Slice.cString p)).bytes ∧
    (c ≠ 0 → (Sep.char c).bytes = (Sep.cstr (some [c])).bytes) ∧
    (Sep.cstr none).bytes = (Sep.str []).bytes := by
  refine ⟨rfl, rfl, ?_, rfl⟩
  intro hc
  simp [Sep.bytes, cBytes, hc]

/-- the slicing calls of the public API -/
inductive Call where
  | substr (start : Int) (count : Nat)
  | left (n : Nat) | right (n : Nat)
  | trimLeft (charset : List Nat) | trimRight (charset : List Nat) | trim (charset : List Nat)
  | beforeFirst (cs : CaseMode) (sep : Sep) | afterFirst (cs : CaseMode) (sep : Sep)
  | beforeLast (cs : CaseMode) (sep : Sep) | afterLast (cs : CaseMode) (sep : Sep)

def Call.run (s : List Nat) : Call → Outcome Res
  | .substr start count => Slice.substr s start count
  | .left n => Slice.left s n
  | .right n => Slice.right s n
  | .trimLeft c => Slice.trimLeft s c
  | .trimRight c => Slice.trimRight s c
  | .trim c => Slice.trim s c
  | .beforeFirst cs sep => Slice.beforeFirst cs s sep
  | .afterFirst cs sep => Slice.afterFirst cs s sep
  | .beforeLast cs sep => Slice.beforeLast cs s sep
  | .afterLast cs sep => Slice.afterLast cs s sep

/-- the argument is a value of the C++ parameter type (only `substr`'s signed start is constrained) -/
def Call.InRange : Call → Prop
  | .substr start _ => -(2^63 : Int) ≤ start ∧ start < 2^63
  | _ => True

/-- every slicing call returns (no exception, no hang, and not `oob`: the range `substr` copies
    never exceeds the string) and asks the allocator for at most `size + 1` units: never more than
    the subject itself occupies -/
theorem alloc_le_size (s : List Nat) (c : Call) (hs : s.length < 2^63) (hc : c.InRange) :
    ∃ r, c.run s = .ok r ∧ r.alloc ≤ s.length + 1 := by
  have key : ∀ want o, Good s want o → ∃ r, o = .ok r ∧ r.alloc ≤ s.length + 1 :=
    fun want o ⟨a, e, ha⟩ => ⟨⟨want, a⟩, e, ha⟩
  cases c with
  | substr start count => exact key _ _ (substr_good s start count hs hc.1 hc.2)
  | left n => exact key _ _ (left_good s n hs)
  | right n => exact key _ _ (right_good s n hs)
  | trimLeft c => exact key _ _ (trimLeft_good s c hs)
  | trimRight c => exact key _ _ (trimRight_good s c hs)
  | trim c => exact key _ _ (trim_good s c hs)
  | beforeFirst cs sep => exact key _ _ (beforeFirst_good cs s sep hs)
  | afterFirst cs sep => exact key _ _ (afterFirst_good cs s sep hs)
  | beforeLast cs sep => exact key _ _ (beforeLast_good cs s sep hs)
  | afterLast cs sep => exact key _ _ (afterLast_good cs s sep hs)

/-! ### the defects of the pinned tree (`Rev.pinned` transcribes `bfef877`), as machine-checked witnesses -/

/-- `ST::string("abc").right(4)` was `"c"`; `right(SIZE_MAX)` was empty -/
theorem pinned_right_witness :
    right [97, 98, 99] 4 .pinned = .ok ⟨[99], 0⟩ ∧ Spec.Slice.right [97, 98, 99] 4 = [97, 98, 99] ∧
    right [97, 98, 99] (2^64 - 1) .pinned = .ok ⟨[], 0⟩ := by decide +kernel

/-- `"abcdef".substr(2, SIZE_MAX - 1)` kept its count and asked for `SIZE_MAX` units -/
theorem pinned_substr_witness :
    substr [97, 98, 99, 100, 101, 102] 2 (2^64 - 2) .pinned = .throw .badAlloc ∧
    allocReq (2^64 - 2) = 2^64 - 1 ∧
    Spec.Slice.substr [97, 98, 99, 100, 101, 102] 2 (2^64 - 2) = [99, 100, 101, 102] := by decide +kernel

/-- `"h--w".after_first(ST::string("--"))` was `"-w"` -/
theorem pinned_after_first_witness :
    afterFirst .sensitive [104, 45, 45, 119] (.str [45, 45]) .pinned = .ok ⟨[45, 119], 0⟩ ∧
    afterLast .sensitive [104, 45, 45, 119] (.str [45, 45]) .pinned = .ok ⟨[45, 119], 0⟩ ∧
    Spec.Slice.afterFirst .sensitive [104, 45, 45, 119] [45, 45] = [119] := by decide +kernel

example : substr [97, 98, 99, 100, 101] (-3) 2 = .ok ⟨[99, 100], 0⟩ := by decide +kernel
example : Spec.Slice.substr [97, 98, 99, 100, 101] (-3) 2 = [99, 100] := by decide
example : trim [32, 97, 32, 98, 9] whitespace = .ok ⟨[97, 32, 98], 0⟩ := by decide +kernel
example : Spec.Slice.occurs .insensitive [104, 45, 88, 119] [120] = true := by decide
example : beforeLast .insensitive [104, 45, 88, 119, 120] (.char 88) = .ok ⟨[104, 45, 88, 119], 0⟩ := by decide +kernel
example : (Call.substr (-(2^63)) (2^64 - 1)).InRange := ⟨by decide, by decide⟩

end StVerif.Props.C08
