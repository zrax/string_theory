/-
  C19 — Allocation failure propagates cleanly and leaves every object destructible.

  Three parts: `ST::buffer<T>` members on the pool machine, `ST::string_stream` (restatements of C16's fault-level
  theorems), `ST::string` operations on the pool machine.  First the buffer level.

  The pool machine's `new` consults a fault schedule (`Pool.failAt`): "the allocation with this ordinal
  throws `bad_alloc`".  For every `ST::buffer<T>` member (`Pool.Op`), every state satisfying the C05
  invariant, and every fault position `k` ("the k-th allocation from now fails"):
  the only exception is `bad_alloc`, it is raised only when an allocation of the call was scheduled to
  fail, and afterwards the invariant still holds (no object points to released storage, every block has
  exactly one owner: nothing leaked, nothing released twice), the target holds its previous value or an
  empty value (a constructor's target was never constructed) and every other object is untouched —
  hence everything can still be read, assigned to and destroyed, and destroying everything leaves an
  empty heap without any fault.

  The buffer part ends with concrete witnesses that the two members as found in the pinned tree
  (`allocateAsFound`, `assignCopyAsFound`) did *not* have this property (defect 16).
  `string_stream` has its own machine (`Model/Stream.lean`, C16); its fault-level theorems are C16's and are
  restated here under the names the C19 check registers.
  The string level (`ST::string` operations as do-blocks over the buffer members, with their temporaries and
  unwinding: `Model/StrPool.lean`) is the last part: `string_fault_safe` and its corollaries, from
  `Lemmas/StrPoolOps.lean: sop_fault_spec`.
-/
import StVerif.Lemmas.PoolStep
import StVerif.Props.C05
import StVerif.Props.C16
import StVerif.Lemmas.StrPoolReach

namespace StVerif.Props.C19
open StVerif.Pool

/-- the same state with "the k-th allocation from now throws `bad_alloc`" scheduled -/
def armed (p : Pool) (k : Nat) : Pool := { p with failAt := some (p.allocs + k) }

def target : Op → Nat
  | .ctorDefault o | .ctorUnits o _ | .ctorCopy o _ | .ctorMove o _ | .dtor o | .clear o | .assignCopy o _ | .assignMove o _
  | .allocate o _ | .allocateFill o _ _ | .writeData o _ _ => o

theorem view_armed (p : Pool) (k x : Nat) : view (armed p k) x = view p x := rfl

/-- **fault safety**: if the call throws `bad_alloc` with the k-th allocation armed, then the invariant holds in the
    state left behind, the target reports its previous value, or an empty value, or (constructors) does not exist,
    and every other object is the very same object reporting the same value -/
theorem fault_safe {p p' : Pool} (hI : Inv p) (op : Op) (hpre : pre op p) (k : Nat)
    (h : op.run (armed p k) = .throw .badAlloc p') :
    Inv p' ∧
    (view p' (target op) = view p (target op) ∨ view p' (target op) = some (0, []) ∨
      (view p (target op) = none ∧ view p' (target op) = none)) ∧
    ∀ x, x ≠ target op → p'.objs x = p.objs x ∧ view p' x = view p x := by
  obtain ⟨_, _, hS, hpost⟩ := run_throw (hI.setFailAt _) op (pre_setFailAt op hpre _) h
  -- an operation that can throw has one operand, its target
  have hT : ∀ x, op.T x ↔ x = target op := fun x => by
    cases op with
    | ctorDefault | ctorMove | dtor | clear | assignMove | writeData => exact hpost.elim
    | _ => exact Iff.rfl
  exact ⟨hS.inv, (throwPost_operand hpre hpost ((hT _).2 rfl)).imp_right (·.imp_right (·.imp_left view_eq_none.2)),
    fun x hx => ⟨hS.objs x (mt (hT x).1 hx), hS.view x (mt (hT x).1 hx)⟩⟩

/-- an exception can only be `bad_alloc` -/
theorem throw_only_bad_alloc {p p' : Pool} (hI : Inv p) (op : Op) (hpre : pre op p) (k : Nat) (e : Exc)
    (h : op.run (armed p k) = .throw e p') : e = .badAlloc :=
  (run_throw (hI.setFailAt _) op (pre_setFailAt op hpre _) h).1

/-- `bad_alloc` is raised only when an allocation of the call was scheduled to fail: a buffer member performs at most
    one allocation, so with any `k ≠ 1` armed (and with nothing armed) the call completes, invariant kept; and no
    call ever ends in a memory fault whatever is armed -/
theorem fault_only_when_scheduled {p : Pool} (hI : Inv p) (op : Op) (hpre : pre op p) (k : Nat) :
    (k ≠ 1 → ∃ p', op.run (armed p k) = .ok () p' ∧ Inv p') ∧
    (∀ f p', op.run (armed p k) ≠ .fault f p') := by
  rcases run_spec (p := armed p k) (hI.setFailAt _) op (pre_setFailAt op hpre _) with ⟨p'', h1, hS, _⟩ | ⟨p'', h1, hf, _⟩
  · exact ⟨fun _ => ⟨p'', h1, hS.inv⟩, fun f p' h => by rw [h] at h1; cases h1⟩
  · exact ⟨fun hk => absurd (Nat.add_left_cancel (Option.some.inj hf)) hk, fun f p' h => by rw [h] at h1; cases h1⟩

/-- **destructible**: after the failed call every live object can still be destroyed, in any order, without any
    fault, and that leaves an empty heap — nothing was leaked or released twice by the failed call -/
theorem fault_safe_destructible {p p' : Pool} (hI : Inv p) (op : Op) (hpre : pre op p) (k : Nat)
    (h : op.run (armed p k) = .throw .badAlloc p') (os : List Nat) (hnd : os.Nodup)
    (hall : ∀ o, (p'.objs o).isSome = true ↔ o ∈ os) :
    ∃ q, destroyAll os p' = .ok () q ∧ (∀ o, q.objs o = none) ∧ (∀ k, q.heap k = none) :=
  Props.C05.no_leak (fault_safe hI op hpre k h).1 os hnd hall

/-- after the failed call every live object can be read, and any operation whose precondition holds can be run
    (once the fault schedule is cleared it completes): the objects are still usable -/
theorem fault_safe_usable {p p' : Pool} (hI : Inv p) (op : Op) (hpre : pre op p) (k : Nat)
    (h : op.run (armed p k) = .throw .badAlloc p') :
    (∀ o b, p'.objs o = some b → ∃ ob, observe o p' = .ok ob p' ∧ ob.terminator = 0 ∧ ob.units.length = ob.size) ∧
    (∀ op', pre op' p' → ∃ q, op'.run { p' with failAt := none } = .ok () q ∧ Inv q) := by
  have hI' := (fault_safe hI op hpre k h).1
  refine ⟨fun o b hb => ?_, fun op' hpre' => ?_⟩
  · exact hI'.readable hb
  · obtain ⟨q, h1, h2, _⟩ := run_ok (hI'.setFailAt none) rfl op' (pre_setFailAt op' hpre' none)
    exact ⟨q, h1, h2.inv⟩

/-- the same at any point of any history: if the state was reached by a history (`Pool.Reach`, C05) and the next
    operation's allocation fails, the invariant holds, every object other than the target still reports the value
    the specification store gives it, and the target reports its specified value, or is empty, or does not exist -/
theorem fault_safe_reachable {L : Nat} (hL : 0 < L) {s : Spec.Store.Store} {p p' : Pool} (hr : Reach L s p) (op : Op)
    (hpre : pre op p) (k : Nat) (h : op.run (armed p k) = .throw .badAlloc p') :
    Inv p' ∧ (∀ x, x ≠ target op → RelO (s x) (view p' x)) ∧
      (RelO (s (target op)) (view p' (target op)) ∨ view p' (target op) = some (0, []) ∨ view p' (target op) = none) := by
  have hI := (Props.C05.inv_reachable hL hr).1
  have hR := Props.C05.refines_reachable hL hr
  obtain ⟨h1, h2, h3⟩ := fault_safe hI op hpre k h
  refine ⟨h1, fun x hx => by rw [(h3 x hx).2]; exact hR x, ?_⟩
  rcases h2 with e | e | ⟨_, e⟩
  · exact Or.inl (by rw [e]; exact hR _)
  · exact Or.inr (Or.inl e)
  · exact Or.inr (Or.inr e)

inductive Tag where
  | ok | fault (f : Fault) | throw (e : Exc)
  deriving DecidableEq, Repr

def tag {α : Type} : Res α → Tag
  | .ok _ _ => .ok | .fault f _ => .fault f | .throw e _ => .throw e

def after {α : Type} : Res α → Pool
  | .ok _ p => p | .fault _ p => p | .throw _ p => p

def obsOf : Res Obs → Option (Nat × List Nat × Nat × Bool)
  | .ok ob _ => some (ob.size, ob.units, ob.terminator, ob.ownStorage)
  | _ => none

/-- `L = 4`: object 0 short `[1,2]`, object 1 long `[5,6,7,8,9]` -/
def start : Pool := after (ctorUnits 1 [5, 6, 7, 8, 9] (after (ctorUnits 0 [1, 2] (Pool.init 4))))

/-- the hypotheses of `fault_safe` are satisfiable: the repaired `allocate(6)` on a short buffer with its allocation
    failing throws `bad_alloc`, the buffer is then empty and readable, and both objects can be destroyed: heap empty -/
example : tag (allocate 0 6 (armed start 1)) = .throw .badAlloc := by decide +kernel
example : obsOf (observe 0 (after (allocate 0 6 (armed start 1)))) = some (0, [], 0, true) := by decide +kernel
example : obsOf (observe 1 (after (allocate 0 6 (armed start 1)))) = some (5, [5, 6, 7, 8, 9], 0, false) := by decide +kernel
example : tag (destroyAll [0, 1] (after (allocate 0 6 (armed start 1)))) = .ok := by decide +kernel
example : (after (destroyAll [0, 1] (after (allocate 0 6 (armed start 1))))).heap 0 = none := by decide +kernel
/-- long target: the repaired `allocate` on the long object 1, and the repaired copy assignment `1 = 1'` (long ← long) -/
example : tag (allocate 1 9 (armed start 1)) = .throw .badAlloc ∧
    obsOf (observe 1 (after (allocate 1 9 (armed start 1)))) = some (0, [], 0, true) ∧
    tag (destroyAll [1, 0] (after (allocate 1 9 (armed start 1)))) = .ok := by decide +kernel
example :
    let p := after (ctorCopy 2 1 start)
    tag (assignCopy 1 2 (armed p 1)) = .throw .badAlloc ∧
    obsOf (observe 1 (after (assignCopy 1 2 (armed p 1)))) = some (0, [], 0, true) ∧
    tag (destroyAll [2, 1, 0] (after (assignCopy 1 2 (armed p 1)))) = .ok := by decide +kernel
/-- with the second allocation armed the call completes (the fault never fires) -/
example : tag (allocate 0 6 (armed start 2)) = .ok := by decide +kernel

/-- **defect 16, first half** (`allocate` as found in the pinned tree, short target): after `bad_alloc` the buffer
    reports the new size while `data()` is still the in-object array — it cannot be read (`oob`) and its destructor
    runs `delete[]` on the in-object array -/
theorem asFound_allocate_badFree :
    tag (allocateAsFound 0 6 (armed start 1)) = .throw .badAlloc ∧
    tag (observe 0 (after (allocateAsFound 0 6 (armed start 1)))) = .fault .oob ∧
    tag (dtor 0 (after (allocateAsFound 0 6 (armed start 1)))) = .fault .badFree := by decide +kernel

/-- (long target) the block has already been released when `new` throws: reading is a use after free and the
    destructor releases the block a second time -/
theorem asFound_allocate_doubleFree :
    tag (allocateAsFound 1 9 (armed start 1)) = .throw .badAlloc ∧
    tag (observe 1 (after (allocateAsFound 1 9 (armed start 1)))) = .fault .useAfterFree ∧
    tag (dtor 1 (after (allocateAsFound 1 9 (armed start 1)))) = .fault .doubleFree := by decide +kernel

/-- **defect 16, second half** (copy assignment as found, long ← long): after `bad_alloc` the target has size 0 but
    `data()` points to the released block -/
theorem asFound_assignCopy_useAfterFree :
    tag (assignCopyAsFound 1 2 (armed (after (ctorCopy 2 1 start)) 1)) = .throw .badAlloc ∧
    tag (observe 1 (after (assignCopyAsFound 1 2 (armed (after (ctorCopy 2 1 start)) 1)))) = .fault .useAfterFree := by
  decide +kernel

/-- without a fault the members as found and the repaired members give the same observations (the repair changes
    nothing but the state left behind by a throwing `new`) — on this example -/
example : obsOf (observe 1 (after (allocateAsFound 1 9 start))) = obsOf (observe 1 (after (allocate 1 9 start))) := by decide +kernel

/-! ### `ST::string_stream` (family `stream`): restatements / corollaries of the C16 results

  The stream machine (Model/Stream.lean) consults the same kind of fault schedule (`failAt`) in `new char[big_size]` of
  `expand_buffer` and in the conversion buffer of the wide `operator<<` overloads; `new` precedes `delete[]`, and the
  signed-number overloads reserve room for sign and digits before their first append (repaired; the overloads as found
  are `Stream.appendNumAsFound`, witness `Props.C16.pinned_signed_number_partial_append`). -/

/-- under any fault schedule every admissible stream operation returns, or throws `unicode_error` / `bad_alloc` with
    every stream showing the bytes it showed before (the target holds its previous value); it never faults or hangs, and
    the stream invariant (exclusive ownership, no dangling pointer, nothing leaked) holds afterwards -/
theorem stream_step_fault_safe {p : Stream.Pool} (hi : Stream.Inv p) (op : Stream.Op) (hwf : op.wf)
    (hok : Spec.ByteLog.ok (Stream.abs p) op.toSpec = true) :
    ∃ p', Stream.Inv p' ∧
      ((op.run .repaired p = .ok () p' ∧ Stream.abs p' = Spec.ByteLog.step (Stream.abs p) op.toSpec) ∨
       (op.run .repaired p = .throw .unicodeError p' ∧ Stream.abs p' = Stream.abs p) ∨
       (op.run .repaired p = .throw .badAlloc p' ∧ p.failAt ≠ none ∧ Stream.abs p' = Stream.abs p)) :=
  Props.C16.step_fault_safe hi op hwf hok

/-- an `append` whose growth fails leaves every stream object, every heap block and the invariant exactly as they were -/
theorem stream_append_fault_safe {p : Stream.Pool} (hi : Stream.Inv p) {o : Nat} {s : Stream.Obj} (ho : p.objs o = some s)
    (bytes : List Nat) (p' : Stream.Pool) (h : Stream.append o bytes p = .throw .badAlloc p') :
    p'.objs = p.objs ∧ p'.heap = p.heap ∧ p'.next = p.next ∧ Stream.Inv p' ∧ Stream.abs p' = Stream.abs p :=
  Props.C16.append_fault_safe hi ho bytes p' h

/-- the same for `append_char` -/
theorem stream_append_char_fault_safe {p : Stream.Pool} (hi : Stream.Inv p) {o : Nat} {s : Stream.Obj} (ho : p.objs o = some s)
    (ch n : Nat) (p' : Stream.Pool) (h : Stream.appendChar o ch n p = .throw .badAlloc p') :
    p'.objs = p.objs ∧ p'.heap = p.heap ∧ p'.next = p.next ∧ Stream.Inv p' ∧ Stream.abs p' = Stream.abs p :=
  Props.C16.append_char_fault_safe hi ho ch n p' h

/-- after a stream operation ended in `bad_alloc`, every stream is still destructible: destroying all of them succeeds
    (no bad / double free) and leaves an empty heap -/
theorem stream_fault_then_destructible {p p' : Stream.Pool} (hi : Stream.Inv p) (op : Stream.Op) (hwf : op.wf)
    (hok : Spec.ByteLog.ok (Stream.abs p) op.toSpec = true) (h : op.run .repaired p = .throw .badAlloc p')
    (ids : List Nat) (hall : ∀ o, p'.objs o ≠ none → o ∈ ids) :
    Stream.Inv p' ∧ ∃ p'', Stream.destroyAll ids p' = .ok () p'' ∧ (∀ o, p''.objs o = none) ∧ ∀ k, p''.heap k = none := by
  have hi' : Stream.Inv p' := by
    rcases Stream.step_sound hi op hwf hok with ⟨q, h1, _⟩ | ⟨q, h1, _⟩ | ⟨q, h1, h2, _⟩
    · rw [h] at h1; cases h1
    · rw [h] at h1; cases h1
    · rw [h] at h1; cases h1; exact h2
  exact ⟨hi', Stream.destroyAll_empty hi' ids hall⟩

/-! ## string level

  `SReachF L p`: `p` is reached from the empty pool by a finite history of string-level operations (`StrPool.SOp`:
  construction from text / buffers / other encodings, copy, move, assignment, `set` in every validation mode, `+=` of a
  string / C string / code point, results of const operations, destruction), each run under its precondition, where
  **any fault schedule may be installed before any operation** and operations that threw (`bad_alloc` included) are
  part of the history.  What a const operation computes is a parameter (`derive`); what it allocates for its result
  is modelled (`fresh`), what libstdc++ containers allocate inside a value computation is not. -/

open StVerif.StrPool

/-- **string-level fault safety**: in any state of any such history, under any fault schedule, an operation whose
    precondition holds ends in one of three ways (`SFOutcome`) — completed, only its targets changed; an exception other
    than `bad_alloc`, nothing changed; `bad_alloc`, only with a fault scheduled, only its targets changed and each target
    holds its previous value, is empty, or was a constructor target.  In each case the invariant of C05 holds afterwards
    (no pointer to released storage, exclusive ownership, nothing leaked) and every temporary has been destroyed. -/
theorem string_fault_safe {L : Nat} (hL : 0 < L) {p : Pool} (hr : SReachF L p) (op : SOp) (hpre : op.pre p) :
    SFOutcome (op.run p) p op.targets := by
  obtain ⟨hI, hT⟩ := sreachF_inv hL hr
  exact sop_fault_spec hI hT op hpre

/-- whatever the schedule, no string-level operation ends in a memory fault (bad free, double free, use after free,
    out-of-bounds access, member call on a destroyed temporary) -/
theorem string_fault_never_faults {L : Nat} (hL : 0 < L) {p : Pool} (hr : SReachF L p) (op : SOp) (hpre : op.pre p) :
    ∀ f q, op.run p ≠ .fault f q := by
  intro f q h
  rcases string_fault_safe hL hr op hpre with ⟨p', h1, _⟩ | ⟨e, p', h1, _⟩ | ⟨p', h1, _⟩ <;> (rw [h] at h1; cases h1)

/-- **after `bad_alloc`**: a fault was scheduled; each target holds its previous value, or is empty, or was the target of a
    constructor (for the results of a const operation: those built before the failing one exist, the others do not);
    every other object is the very same object (data pointer included) with the same value -/
theorem string_fault_target_previous_or_empty {L : Nat} (hL : 0 < L) {p p' : Pool} (hr : SReachF L p) (op : SOp)
    (hpre : op.pre p) (h : op.run p = .throw .badAlloc p') :
    p.failAt ≠ none ∧
    (∀ t ∈ op.targets, view p' t = view p t ∨ view p' t = some (0, []) ∨ p.objs t = none) ∧
    (∀ x, x ∉ op.targets → p'.objs x = p.objs x ∧ view p' x = view p x) := by
  rcases string_fault_safe hL hr op hpre with ⟨p'', h1, _⟩ | ⟨e, p'', h1, he, _⟩ | ⟨p'', h1, f1, s1, _, v1⟩
  · rw [h] at h1; cases h1
  · rw [h] at h1; cases h1; exact absurd rfl he
  · rw [h] at h1; cases h1
    exact ⟨f1, v1, fun x hx => ⟨s1.objs x hx, s1.view x hx⟩⟩

/-- an exception other than `bad_alloc` leaves every object unchanged also when a fault is scheduled (C18 under faults) -/
theorem string_fault_other_exception_unchanged {L : Nat} (hL : 0 < L) {p p' : Pool} (hr : SReachF L p) (op : SOp)
    (hpre : op.pre p) {e : Exc} (h : op.run p = .throw e p') (he : e ≠ .badAlloc) :
    ∀ x, p'.objs x = p.objs x ∧ view p' x = view p x := by
  rcases string_fault_safe hL hr op hpre with ⟨p'', h1, _⟩ | ⟨e', p'', h1, _, s1, _⟩ | ⟨p'', h1, _⟩
  · rw [h] at h1; cases h1
  · rw [h] at h1; cases h1; exact fun x => ⟨s1.objs x (fun f => f), s1.view x (fun f => f)⟩
  · rw [h] at h1; cases h1; exact absurd rfl he

/-- only finitely many objects are alive in a state of such a history -/
theorem string_reachable_finite {L : Nat} (hL : 0 < L) {p : Pool} (hr : SReachF L p) :
    ∃ os : List Nat, os.Nodup ∧ ∀ o, (p.objs o).isSome = true ↔ o ∈ os := by
  have hsup : ∃ cs : List Nat, ∀ o, (p.objs o).isSome = true → o ∈ cs := by
    induction hr with
    | init => exact ⟨[], fun o ho => by simp [Pool.init] at ho⟩
    | @ok p p' op hprev hpre hrun ih | @thrown p p' op _ hprev hpre hrun ih =>
      obtain ⟨cs, hcs⟩ := ih
      obtain ⟨hI, hT⟩ := sreachF_inv hL hprev
      have k := (sop_keeps hI hT op hpre).1
      rw [hrun] at k
      exact ⟨_, k.live_sub (fun _ h => h) hcs⟩
    | arm f _ ih => exact ih
  obtain ⟨cs, hcs⟩ := hsup
  exact exact_live_list p cs hcs

/-- **destructible**: the state after `bad_alloc` is again a state of such a history (so everything above applies to
    whatever is done next — reading, assigning, appending, with or without further faults), and destroying every live
    object, in any order, never faults and leaves an empty heap (C05 `no_leak`): the failed call leaked nothing and left
    nothing to be released twice -/
theorem string_fault_destructible {L : Nat} (hL : 0 < L) {p p' : Pool} (hr : SReachF L p) (op : SOp) (hpre : op.pre p)
    (h : op.run p = .throw .badAlloc p') :
    SReachF L p' ∧ Inv p' ∧
    (∃ os : List Nat, os.Nodup ∧ ∀ o, (p'.objs o).isSome = true ↔ o ∈ os) ∧
    ∀ os : List Nat, os.Nodup → (∀ o, (p'.objs o).isSome = true ↔ o ∈ os) →
      ∃ q, destroyAll os p' = .ok () q ∧ (∀ o, q.objs o = none) ∧ (∀ k, q.heap k = none) := by
  have hr' : SReachF L p' := .thrown hr hpre h
  have hI' := (sreachF_inv hL hr').1
  exact ⟨hr', hI', string_reachable_finite hL hr', fun os hnd hall => Props.C05.no_leak hI' os hnd hall⟩

/-- after `bad_alloc` every live object can be read through `data()` / `size()`: NUL-terminated, as long as it says -/
theorem string_fault_readable {L : Nat} (hL : 0 < L) {p p' : Pool} (hr : SReachF L p) (op : SOp) (hpre : op.pre p)
    (h : op.run p = .throw .badAlloc p') :
    ∀ o b, p'.objs o = some b → ∃ ob, observe o p' = .ok ob p' ∧ ob.terminator = 0 ∧ ob.units.length = ob.size :=
  fun _ _ hb => (string_fault_destructible hL hr op hpre h).2.1.readable hb

/-- the histories of C04/C18 (no fault ever scheduled) are among these histories -/
theorem string_histories_included {L : Nat} {p : Pool} (h : SReach L p) : SReachF L p := SReach.toF h

/-- **the hypotheses are satisfiable and the fault really fires**: a 20-byte string (heap storage at limit 16) is
    constructed in the empty pool, the next allocation is scheduled to fail, and `o += o` (whose 40-byte result needs an
    allocation) ends in `bad_alloc` — with the string still holding its 20 bytes.  (By the lemmas, not by evaluation.) -/
example : ∃ p p', SReachF 16 p ∧ (SOp.appendStr 0 0).pre p ∧ (SOp.appendStr 0 0).run p = .throw .badAlloc p' ∧
    view p' 0 = some (20, List.replicate 20 0x61) := by
  have hL : 0 < 16 := by decide
  have hpre0 : (SOp.ctorText 0 (List.replicate 20 0x61) .assumeValid).pre (Pool.init 16) := ⟨userId_zero, rfl⟩
  obtain ⟨hI0, hT0, hF0⟩ := sreach_inv hL (.init : SReach 16 (Pool.init 16))
  rcases ctorText_f hI0 (o := 0) rfl (hT0 _ isTemp_A) (hT0 _ isTemp_C) (by decide) (by decide) (List.replicate 20 0x61) .assumeValid with
    ⟨p1, h1, s1, w, hw, v1⟩ | ⟨_, _, _, _, ht | hf⟩
  · cases hw
    have hr1 : SReachF 16 p1 := .ok .init hpre0 h1
    let p := { p1 with failAt := some (p1.allocs + 1) }
    have hr : SReachF 16 p := .arm _ hr1
    obtain ⟨hI, hT⟩ := sreachF_inv hL hr
    obtain ⟨b, hb⟩ := alive_of_view v1
    have hb' : p.objs 0 = some b := hb
    have hv : view p 0 = some (20, List.replicate 20 0x61) := v1
    have hu : units p b = List.replicate 20 0x61 := units_of_view hb' hv
    have hLp : p.L = 16 := s1.L
    obtain ⟨p', h2, _, s2⟩ := appendStr_throws hI hb' hb' (hT _ isTemp_A) (by rw [hu, hLp]; decide) rfl
    refine ⟨p, p', hr, ⟨userId_zero, userId_zero, ⟨b, hb'⟩, ⟨b, hb'⟩⟩, h2, ?_⟩
    rw [s2.view 0 (fun f => f)]; exact hv
  · exact nomatch ht.1
  · exact absurd hF0 hf.2

end StVerif.Props.C19
