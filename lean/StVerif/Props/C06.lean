/-
  C06 — Comparison is a total order; operators, overloads and hashes agree with it.

  Vocabulary.  Model (Model/Compare.lean): `compareSized e l lsize r rsize` is the static
  `buffer<char_T>::compare(left, lsize, right, rsize)` (lengths are separate arguments, so operands
  of any length are expressible), `strCompare cs a rhs` / `strCompareN` are `ST::string::compare` /
  `compare_n` for both case modes and every right-hand overload (`Rhs`: another string, a
  `const char*`, `nullptr`), `bufCompare e` / `bufCompareN e` the `ST::buffer` members for the four
  element types, `strLt/strEq/strNe`, `lessI/equalI`, `hash/hashI`, `toUpper/toLower`.
  Spec (Spec/Compare.lean): `lexSign key a b ∈ {-1,0,1}` is lexicographic three-way comparison (first
  difference in the order of `key`, else the shorter text first), `lexUnsigned` its instance for the
  unsigned unit value, `LexLt` the textbook "sorts strictly before", `FoldEq` equality after
  folding ASCII `A`-`Z` to `a`-`z`.

  The model mirrors the repaired code (`fix:` commit "compare returned the size difference narrowed
  to int"); `narrowed_difference_was_wrong` keeps the defect of the pinned tree on record.
-/
import StVerif.Lemmas.Compare

namespace StVerif.Props.C06
open StVerif.Search StVerif.Compare StVerif.Spec.Compare
open StVerif.Spec.Search (foldAscii)
open StVerif.Lemmas.Compare StVerif.Lemmas.CompareSpec

/-- case-sensitive `compare` of two texts of ANY lengths (also lengths differing by 2^31 or more)
    has the sign of — in fact equals — lexicographic comparison in the element order, a proper
    prefix sorting first; for `char`, `char16_t`, `char32_t` that order is the unsigned unit value -/
theorem sign_compare_eq_lex (e : Elem) (a b : List Nat) :
    Int.sign (compareSized e a a.length b b.length) = lexSign e.key a b ∧
    (e ≠ .wchar → Int.sign (compareSized e a a.length b b.length) = lexUnsigned a b) := by
  rw [compareSized_eq_lexSign, sign_lexSign]
  exact ⟨rfl, fun h => by rw [key_unsigned e h]; rfl⟩

/-- `wchar_t` buffers: unsigned order for units below 2^31 (every code point); see
    `wchar_high_units_signed_witness` for the rest -/
theorem sign_compare_eq_lex_wchar (a b : List Nat) (ha : UnitsLt (2 ^ 31) a) (hb : UnitsLt (2 ^ 31) b) :
    Int.sign (compareSized .wchar a a.length b b.length) = lexUnsigned a b := by
  rw [(sign_compare_eq_lex .wchar a b).1, lexSign_wchar_low a b ha hb]; rfl

/-- platform fact made explicit: `char_traits<wchar_t>::compare` is `wmemcmp`, which orders units at
    or above 2^31 (not code points) as negative numbers -/
theorem wchar_high_units_signed_witness :
    compareSized .wchar [0x80000000] 1 [0x41] 1 < 0 ∧ lexUnsigned [0x80000000] [0x41] = 1 := by decide

/-- `ST::string::compare(str)` (case-sensitive): bytewise unsigned lexicographic order, embedded
    NULs included, for every right-hand overload on the text it denotes -/
theorem string_compare_eq_lex (a : List Nat) (r : Rhs) :
    Int.sign (strCompare .sensitive a r) = lexUnsigned a r.text := by
  rw [strCompare_eq_text]
  exact (sign_compare_eq_lex .char a r.text).2 (by decide)

/-- `lexUnsigned` is the textbook order: -1 exactly when `a` sorts strictly before `b` (a proper
    prefix first, else the first differing byte decides), 0 exactly for equal texts -/
theorem lex_is_textbook (a b : List Nat) :
    (lexUnsigned a b = -1 ↔ LexLt (fun x y => x < y) a b) ∧ (lexUnsigned a b = 0 ↔ a = b) ∧
    (lexUnsigned a b = 1 ↔ LexLt (fun x y => x < y) b a) := by
  have key : ∀ a b, lexUnsigned a b = -1 ↔ LexLt (fun x y => x < y) a b := by
    intro a b
    unfold lexUnsigned
    rw [lexSign_neg_iff_LexLt unsignedKey unsignedKey_inj]
    simp only [unsignedKey, Int.ofNat_lt]
  refine ⟨key a b, lexSign_eq_zero_iff_eq unsignedKey unsignedKey_inj a b, ?_⟩
  rw [← key b a]
  unfold lexUnsigned
  rw [lexSign_swap unsignedKey a b]
  omega

/-- antisymmetry, both case modes, operands of any length: the sign of `compare(b,a)` is the negation
    of the sign of `compare(a,b)` -/
theorem antisymm (cs : CaseMode) (a b : List Nat) :
    Int.sign (strCompare cs b (.str a)) = - Int.sign (strCompare cs a (.str b)) := by
  rw [strCompare_sign, strCompare_sign, lexSign_swap]

theorem antisymm_buffer (e : Elem) (a b : List Nat) :
    Int.sign (bufCompare e b (.str a)) = - Int.sign (bufCompare e a (.str b)) := by
  rw [bufCompare_str, bufCompare_str, lexSign_swap, Int.sign_neg]

/-- transitivity, both case modes -/
theorem trans (cs : CaseMode) (a b c : List Nat) :
    (strCompare cs a (.str b) ≤ 0 → strCompare cs b (.str c) ≤ 0 → strCompare cs a (.str c) ≤ 0) ∧
    (strCompare cs a (.str b) < 0 → strCompare cs b (.str c) ≤ 0 → strCompare cs a (.str c) < 0) ∧
    (strCompare cs a (.str b) ≤ 0 → strCompare cs b (.str c) < 0 → strCompare cs a (.str c) < 0) := by
  simp only [strCompare_nonpos_iff, strCompare_neg_iff]
  exact lexSign_trans (modeKey cs) a b c

theorem trans_buffer (e : Elem) (a b c : List Nat) :
    (bufCompare e a (.str b) ≤ 0 → bufCompare e b (.str c) ≤ 0 → bufCompare e a (.str c) ≤ 0) ∧
    (bufCompare e a (.str b) < 0 → bufCompare e b (.str c) ≤ 0 → bufCompare e a (.str c) < 0) ∧
    (bufCompare e a (.str b) ≤ 0 → bufCompare e b (.str c) < 0 → bufCompare e a (.str c) < 0) := by
  simp only [bufCompare_str]
  exact lexSign_trans e.key a b c

/-- zero exactly for equal operands (case-sensitive) -/
theorem zero_iff_eq (a b : List Nat) : strCompare .sensitive a (.str b) = 0 ↔ a = b := by
  show bufCompare .char a (.str b) = 0 ↔ a = b
  rw [bufCompare_str]
  exact lexSign_eq_zero_iff_eq _ unsignedKey_inj a b

theorem zero_iff_eq_buffer (e : Elem) (a b : List Nat) (ha : UnitsLt (2 ^ e.bits) a) (hb : UnitsLt (2 ^ e.bits) b) :
    bufCompare e a (.str b) = 0 ↔ a = b := by
  rw [bufCompare_str, lexSign_eq_zero_iff]
  exact ⟨map_key_inj e a b ha hb, fun h => by rw [h]⟩

/-- case-insensitive compare is zero exactly for operands equal after folding ASCII `A`-`Z` to `a`-`z` -/
theorem ci_zero_iff_fold_eq (a b : List Nat) (ha : Bytes a) (hb : Bytes b) :
    strCompare .insensitive a (.str b) = 0 ↔ FoldEq a b :=
  strCompare_eq_zero_iff .insensitive a b ha hb

/-- case-insensitive compare is a total preorder: swapping the operands negates the sign, one of the
    two orders always holds, and `≤ 0` is transitive (its equivalence: `ci_zero_iff_fold_eq`) -/
theorem ci_preorder (a b c : List Nat) :
    Int.sign (strCompare .insensitive b (.str a)) = - Int.sign (strCompare .insensitive a (.str b)) ∧
    (strCompare .insensitive a (.str b) ≤ 0 ∨ strCompare .insensitive b (.str a) ≤ 0) ∧
    (strCompare .insensitive a (.str b) ≤ 0 → strCompare .insensitive b (.str c) ≤ 0 → strCompare .insensitive a (.str c) ≤ 0) := by
  refine ⟨antisymm .insensitive a b, ?_, (trans .insensitive a b c).1⟩
  rw [strCompare_nonpos_iff, strCompare_nonpos_iff, lexSign_swap (modeKey .insensitive) a b]
  omega

/-- `==`, `!=`, `<`, the `const char*` / null / buffer / `ST::string` overloads, `compare_i`,
    `less_i` and `equal_i` all agree with `compare` -/
theorem ops_agree (cs : CaseMode) (e : Elem) (a b : List Nat) (r : Rhs) (n : Nat) :
    (strLt a b = true ↔ strCompare .sensitive a (.str b) < 0) ∧
    (strEq a r = true ↔ strCompare .sensitive a r = 0) ∧
    (strNe a r = true ↔ strCompare .sensitive a r ≠ 0) ∧
    (strNe a r = !strEq a r) ∧
    -- every right-hand overload compares as the text it denotes (C string before its first NUL; null = empty)
    strCompare cs a r = strCompare cs a (.str r.text) ∧
    strCompareN cs a r n = strCompareN cs a (.str r.text) n ∧
    bufCompare e a r = bufCompare e a (.str r.text) ∧
    bufCompareN e a r n = bufCompareN e a (.str r.text) n ∧
    -- ST::string compare is the char buffer compare
    strCompare .sensitive a r = bufCompare .char a r ∧
    -- compare_i / compare_ni / less_i / equal_i
    strCompareI a r = strCompare .insensitive a r ∧
    strCompareNI a r n = strCompareN .insensitive a r n ∧
    (lessI a b = true ↔ strCompareI a (.str b) < 0) ∧
    (equalI a b = true ↔ strCompareI a (.str b) = 0) ∧
    -- buffer operators
    (bufLt e a b = true ↔ bufCompare e a (.str b) < 0) ∧
    (bufEq e a b = true ↔ bufCompare e a (.str b) = 0) ∧
    (bufNe e a b = true ↔ bufCompare e a (.str b) ≠ 0) := by
  exact ⟨decide_eq_true_iff, decide_eq_true_iff, decide_eq_true_iff, by simp [strNe, strEq],
    strCompare_eq_text cs a r, strCompareN_eq_text cs a r n, bufCompare_eq_text e a r, bufCompareN_eq_text e a r n,
    rfl, rfl, rfl, decide_eq_true_iff, decide_eq_true_iff, decide_eq_true_iff, decide_eq_true_iff, decide_eq_true_iff⟩

/-- consequently `==` is equality of the texts and `<` is the textbook order -/
theorem operators_meaning (a b : List Nat) :
    (strEq a (.str b) = true ↔ a = b) ∧ (strNe a (.str b) = true ↔ a ≠ b) ∧
    (strLt a b = true ↔ LexLt (fun x y => x < y) a b) := by
  have hz := zero_iff_eq a b
  refine ⟨by simp [strEq, hz], by simp [strNe, hz], ?_⟩
  have hs := string_compare_eq_lex a (.str b)
  simp only [Rhs.text] at hs
  rw [← (lex_is_textbook a b).1, ← hs]
  simp only [strLt, decide_eq_true_eq]
  rw [Int.sign_eq_neg_one_iff_neg]

/-- `compare_n(x, n)` is the comparison of the first `n` units of both operands, for every `n`
    (`SIZE_MAX` and everything beyond the lengths included) -/
theorem compare_n_eq_take (cs : CaseMode) (e : Elem) (a : List Nat) (r : Rhs) (n : Nat) :
    strCompareN cs a r n = strCompare cs (a.take n) (.str (r.text.take n)) ∧
    bufCompareN e a r n = bufCompare e (a.take n) (.str (r.text.take n)) := by
  refine ⟨strCompareN_eq_take cs a r n, ?_⟩
  rw [bufCompareN_eq_text]
  exact compareSizedN_eq_take e a r.text n

/-- equal strings (as `==` decides) have equal hash values -/
theorem hash_congr (a b : List Nat) (h : strEq a (.str b) = true) : Compare.hash a = Compare.hash b := by
  rw [(operators_meaning a b).1.1 h]

/-- case-insensitively equal strings (as `equal_i` decides) have equal `hash_i` values -/
theorem hash_i_congr (a b : List Nat) (ha : Bytes a) (hb : Bytes b) (h : equalI a b = true) : hashI a = hashI b := by
  have h0 : strCompare .insensitive a (.str b) = 0 := of_decide_eq_true h
  have hf : a.map foldAscii = b.map foldAscii := (ci_zero_iff_fold_eq a b ha hb).1 h0
  rw [hashI_eq_hash_map, hashI_eq_hash_map, Lemmas.Search.lower_eq, hf]

/-- `to_upper` / `to_lower` keep the length and change a byte exactly when it is an ASCII letter of
    the other case, by exactly 32 -/
theorem case_map_only_ascii (s : List Nat) :
    (toUpper s).length = s.length ∧ (toLower s).length = s.length ∧
    (∀ i (h : i < s.length), (toUpper s)[i]'(by simp [toUpper, h]) = if isLowerAscii s[i] then s[i] - 32 else s[i]) ∧
    (∀ i (h : i < s.length), (toLower s)[i]'(by simp [toLower, h]) = if isUpperAscii s[i] then s[i] + 32 else s[i]) ∧
    toLower s = s.map foldAscii := by
  refine ⟨by simp [toUpper], by simp [toLower], ?_, ?_, ?_⟩
  · intro i h; simp only [toUpper, List.getElem_map]; exact upper_spec _
  · intro i h; simp only [toLower, List.getElem_map]; exact lower_spec _
  · rw [toLower, Lemmas.Search.lower_eq]

/-- only the first `min lsize rsize` units behind either pointer are read, so the static form may be
    called with one readable unit and any `lsize`/`rsize` as long as the other size is 0 (or 1) -/
theorem reads_only_common_prefix (e : Elem) (l r : List Nat) (lsize rsize : Nat) :
    compareSized e l lsize r rsize =
      compareSized e (l.take (min lsize rsize)) lsize (r.take (min lsize rsize)) rsize :=
  compareSized_take e l r (Nat.le_refl _)

/-- the length-only cases the correspondence replays have the sign of the size difference -/
theorem huge_length_difference :
    compareSized .char [] 0 [0x78] (2 ^ 32) < 0 ∧ compareSized .char [0x78] (2 ^ 31) [] 0 > 0 ∧
    compareCiSized [] 0 [0x78] (2 ^ 32) < 0 ∧ compareCiSized [0x78] (2 ^ 31) [] 0 > 0 := by decide

/-- what the pinned tree returned for an equal common prefix, `static_cast<int>(lsize - rsize)`,
    is zero for sizes 0 and 2^32 and negative for sizes 2^31 and 0 — the defect repaired by the
    `fix:` commit (witness file findings/C06-compare-size-difference-narrowed-to-int.json) -/
theorem narrowed_difference_was_wrong :
    sizeDiffNarrowed 0 (2 ^ 32) = 0 ∧ sizeDiffNarrowed (2 ^ 31) 0 < 0 ∧ sizeDiffNarrowed 0 (2 ^ 31 + 1) > 0 := by decide

/-- and it had the right sign whenever the difference of the sizes fitted an `int` -/
theorem narrowed_difference_ok_when_small (ls rs : Nat) (h1 : ls < 2 ^ 64) (h2 : rs < 2 ^ 64)
    (hd : (ls : Int) - rs < 2 ^ 31 ∧ (rs : Int) - ls ≤ 2 ^ 31) :
    Int.sign (sizeDiffNarrowed ls rs) = sizeOrder ls rs :=
  sizeDiffNarrowed_sign ls rs hd

example : strCompare .sensitive [0x61, 0x00, 0x62] (.str [0x61, 0x00, 0x63]) < 0 := by decide
example : strCompare .sensitive [0x61, 0x00, 0x62] (.cstr (some [0x61, 0x00, 0x63])) > 0 := by decide
example : strCompare .sensitive [0x80] (.str [0x7F]) > 0 := by decide
example : strCompare .insensitive [0x41, 0x62] (.str [0x61, 0x42]) = 0 := by decide
example : strCompareN .sensitive [0x61, 0x62] (.str [0x61, 0x63]) 1 = 0 := by decide

/-- the unit-range hypotheses are satisfiable -/
example : Bytes [0x00, 0x41, 0x80, 0xFF] ∧ UnitsLt (2 ^ Elem.bits .wchar) [0, 0x10FFFF, 0xFFFFFFFF] ∧ UnitsLt (2 ^ 31) [0x10FFFF] := by decide
example : (2 ^ 31 : Nat) < 2 ^ 64 ∧ ((5 : Nat) : Int) - (3 : Nat) < 2 ^ 31 := by decide

end StVerif.Props.C06
