/-
  C16 — string_stream content equals the concatenation of everything appended; no leak, no double
  free; a moved-from stream is a valid empty stream.

  `Stream.*` is the machine model of include/st_stringstream.h (Model/Stream.lean), `ByteLog` the plain
  byte-string spec (Spec/ByteLog.lean), `abs` the abstraction `raw_buffer()[0, size())` per live stream,
  `HistOk` admissibility of a history (no member call on a dead stream, no construction over a live one,
  no self-move-assignment, wide text of fewer than 2^28 units).  `R` = the repaired move operations; the
  `pinned_*` theorems at the end show what the revision first read does (defect #14).
-/
import StVerif.Lemmas.StreamOps
import StVerif.Lemmas.UtfStd
import StVerif.Lemmas.UtfString
import StVerif.Props.C12

namespace StVerif.Props.C16
open StVerif.Stream StVerif.Generated StVerif.Spec

abbrev R : Rev := .repaired

/-- the empty pool satisfies the invariant -/
theorem inv_init : Inv Pool.init := Stream.inv_init

/-- **Invariant step.**  Any operation that is admissible in the current spec state, run on a pool that
    satisfies `Inv` (no fault schedule armed), returns — or throws `unicode_error` for malformed wide
    text, leaving everything as it was —; it never faults (`badFree`, `doubleFree`, `useAfterFree`, `oob`)
    and never gets `stuck`; `Inv` holds again and the abstraction has moved by exactly the spec step. -/
theorem inv_step {p : Pool} (hi : Inv p) (hf : p.failAt = none) (op : Op) (hwf : op.wf)
    (hok : ByteLog.ok (abs p) op.toSpec = true) :
    ∃ p', (op.run R p = .ok () p' ∨ op.run R p = .throw .unicodeError p') ∧
      Inv p' ∧ abs p' = ByteLog.step (abs p) op.toSpec ∧ p'.failAt = none :=
  step_unarmed hi hf op hwf hok

/-- **Reachability.**  Every admissible history runs to its end and ends in a pool satisfying `Inv`. -/
theorem inv_reachable (ops : List Op) (h : HistOk ByteLog.State.init ops) :
    ∃ p, runOps R ops Pool.init = .ok () p ∧ Inv p := by
  obtain ⟨p, h1, h2, _⟩ := run_init ops h
  exact ⟨p, h1, h2⟩

/-- **Refinement.**  After any admissible history — across the switch from the in-object buffer to the
    heap and every later doubling, through truncate / erase / moves in both storage modes — every live
    stream shows `size()` = the length of, and `raw_buffer()[0, size())` = exactly, the bytes the
    byte-string spec holds for it, and the dead ones are dead. -/
theorem stream_refines (ops : List Op) (h : HistOk ByteLog.State.init ops) :
    ∃ p, runOps R ops Pool.init = .ok () p ∧
      ∀ o, match ByteLog.run ByteLog.State.init (ops.map Op.toSpec) o with
        | some b => ∃ ptr, observe o p = .ok { size := b.length, bytes := b, ptr := ptr } p
        | none => p.objs o = none := by
  obtain ⟨p, h1, h2, h3⟩ := run_init ops h
  refine ⟨p, h1, fun o => ?_⟩
  rw [← h3]
  cases hb : abs p o with
  | none => exact abs_dead.mp hb
  | some b =>
    obtain ⟨s, ho⟩ := live_of_some hb
    exact ⟨s.chars, observe_spec h2 ho hb⟩

/-- no admissible history ever ends in a fault: in particular nothing is released twice
    (`doubleFree`), no non-heap or foreign pointer is released (`badFree`), nothing is used after its
    release, nothing is read or written outside its block, and no loop hangs (`stuck`) -/
theorem no_fault (ops : List Op) (h : HistOk ByteLog.State.init ops) (f : Fault) (p' : Pool) :
    runOps R ops Pool.init ≠ .fault f p' := by
  obtain ⟨p, h1, _⟩ := inv_reachable ops h
  rw [h1]; nofun

theorem no_double_free (ops : List Op) (h : HistOk ByteLog.State.init ops) (p' : Pool) :
    runOps R ops Pool.init ≠ .fault .doubleFree p' ∧ runOps R ops Pool.init ≠ .fault .badFree p' :=
  ⟨no_fault ops h _ _, no_fault ops h _ _⟩

/-- **No leak.**  Destroying every stream that is alive at the end of an admissible history succeeds and
    leaves an empty heap. -/
theorem no_leak (ops : List Op) (h : HistOk ByteLog.State.init ops) (ids : List Nat)
    (hall : ∀ o, ByteLog.run ByteLog.State.init (ops.map Op.toSpec) o ≠ none → o ∈ ids) :
    ∃ p p', runOps R ops Pool.init = .ok () p ∧ destroyAll ids p = .ok () p' ∧
      (∀ o, p'.objs o = none) ∧ ∀ k, p'.heap k = none := by
  obtain ⟨p, h1, h2, h3⟩ := run_init ops h
  obtain ⟨p', h4, h5⟩ := destroyAll_empty h2 ids fun o ho => hall o (by rw [← h3]; exact mt abs_dead.mp ho)
  exact ⟨p, p', h1, h4, h5⟩

/-- **The doubling loop terminates** when the capacity is positive, within the fuel the model gives it,
    with the least capacity `alloc * 2^(j+1)` that holds `need` bytes … -/
theorem expand_terminates (need alloc : Nat) (h : 0 < alloc) :
    ∃ big, growLoop need (need + 1) alloc = some big ∧ need ≤ big ∧
      ∃ j, big = alloc * 2 ^ (j + 1) ∧ (j = 0 ∨ alloc * 2 ^ j < need) := by
  obtain ⟨big, h1, h2, _⟩ := growLoop_spec need (need + 1) alloc h (Nat.succ_pos _) (Nat.lt_add_left _ (Nat.lt_succ_self _))
  obtain ⟨j, h3, _, h4⟩ := growLoop_least need _ _ _ h1
  exact ⟨big, h1, h2, j, h3, h4⟩

/-- … and the capacity *is* positive for every live stream of a pool satisfying `Inv`, so `expand_buffer`
    never hangs there (whatever the fault schedule) -/
theorem expand_never_stuck {p : Pool} (hi : Inv p) {o : Nat} {s : Obj} (ho : p.objs o = some s) (added : Nat) (p' : Pool) :
    expandBuffer o added p ≠ .fault .stuck p' := by
  rcases expand_spec hi ho added with ⟨p₁, _, h1, _⟩ | ⟨h1, _⟩ <;> (rw [h1]; nofun)

/-- **to_string.**  After any admissible history `to_string(utf8_encoded, validation)` of a live stream
    is the ST::string construction (`from_utf8` under the given mode, or `from_latin_1`) applied to
    exactly the spec's bytes … -/
theorem to_string_eq (ops : List Op) (h : HistOk ByteLog.State.init ops) (o : Nat) (b : List Nat)
    (hb : ByteLog.run ByteLog.State.init (ops.map Op.toSpec) o = some b) (utf8 : Bool) (m : Mode) :
    ∃ p, runOps R ops Pool.init = .ok () p ∧ Stream.toString o utf8 m p = .ok (toStringOf b utf8 m) p := by
  obtain ⟨p, h1, h2, h3⟩ := run_init ops h
  have hb' : abs p o = some b := by rw [h3]; exact hb
  obtain ⟨s, ho⟩ := live_of_some hb'
  exact ⟨p, h1, toString_spec h2 ho hb' utf8 m⟩

/-- … which is the reference result of Spec/Unicode.lean: the bytes validated as UTF-8 under the mode
    (`check_validity` rejects, `substitute_invalid` repairs, `assume_valid` copies), or transcoded from
    Latin-1 (C01/C02 do the work) -/
theorem to_string_reference (b : List Nat) (hbytes : Bytes b) (hlen : b.length < hugeBufferSize) (m : Mode) :
    toStringOf b true m = Unicode.referenceString m b ∧
    toStringOf b false m = Unicode.reference .latin1 .utf8 m true b := by
  constructor
  · simp only [toStringOf, if_true, Utf.stringFrom]
    exact Lemmas.Utf.stringSet_eq_reference m b hbytes hlen
  · simp only [toStringOf, Bool.false_eq_true, if_false, Utf.stringFrom]
    exact Lemmas.Utf.convert_eq_reference .latin1 .utf8 (by decide) m true b hbytes hlen

/-- well-formed wide text (the standard UTF-16 / UTF-32 encoding of a scalar sequence) is appended as
    its standard UTF-8 encoding: the rendering `Op.toSpec` uses for `operator<<` is C01's -/
theorem text_rendering_std (e : Utf.Enc) (m : Mode) (s : List Nat) (hs : ∀ c ∈ s, Unicode.Scalar c) :
    textRendering e m (Unicode.stdEnc e s) = some (Unicode.stdEnc .utf8 s) := by
  simp only [textRendering, Lemmas.Utf.reference_std e .utf8 (by decide) m false s hs]

/-- **A moved-from stream is a valid empty stream** (move construction): the source is in the state of a
    default-constructed stream — own in-object buffer, capacity ST_STACK_STRING_SIZE, size 0 —, the
    target shows the source's former bytes, `Inv` holds; hence (by `inv_step`) it can be appended to,
    assigned to and destroyed.  Three of these are spelled out. -/
theorem moved_from_is_empty_stream {p : Pool} (hi : Inv p) {o src : Nat} {mv : Obj} (hd : p.objs o = none)
    (hs : p.objs src = some mv) :
    ∃ p' s' b, moveCtor R o src p = .ok () p' ∧ Inv p' ∧ abs p src = some b ∧
      p'.objs src = some s' ∧ IsFresh src s' ∧ abs p' src = some [] ∧ abs p' o = some b ∧
      (∀ bytes, p'.failAt = none → ∃ p'', append src bytes p' = .ok () p'' ∧ Inv p'' ∧ abs p'' src = some bytes) ∧
      (∃ p'', dtor src p' = .ok () p'' ∧ Inv p'') ∧
      (∃ p'', moveAssign R src o p' = .ok () p'' ∧ Inv p'' ∧ abs p'' src = some b ∧ abs p'' o = some []) := by
  have hb := abs_live hs
  have hne : o ≠ src := by intro h; rw [h, hs] at hd; cases hd
  obtain ⟨p', h1, h2, h3, _, h5⟩ := moveCtor_spec hi hd hs hb
  obtain ⟨c2, c3, c4, c5, c6⟩ := moved_from_usable hne h2 h3 h5
  obtain ⟨so, hso⟩ := live_of_some c4
  obtain ⟨p'', a1, a2, a3, _⟩ := moveAssign_spec h2 h5 hso (Ne.symm hne) c4
  exact ⟨p', _, _, h1, h2, hb, h5, c2, c3, c4, c5, c6, p'', a1, a2, by rw [a3, set_ne _ _ (Ne.symm hne), set_get],
    by rw [a3, set_get]⟩

/-- the same for move assignment (target alive, in either storage mode; its old block is released) -/
theorem moved_from_is_empty_stream_assign {p : Pool} (hi : Inv p) {o src : Nat} {a mv : Obj} (ho : p.objs o = some a)
    (hs : p.objs src = some mv) (hne : o ≠ src) :
    ∃ p' s' b, moveAssign R o src p = .ok () p' ∧ Inv p' ∧ abs p src = some b ∧
      p'.objs src = some s' ∧ IsFresh src s' ∧ abs p' src = some [] ∧ abs p' o = some b ∧
      (∀ bytes, p'.failAt = none → ∃ p'', append src bytes p' = .ok () p'' ∧ Inv p'' ∧ abs p'' src = some bytes) ∧
      (∃ p'', dtor src p' = .ok () p'' ∧ Inv p'') := by
  have hb := abs_live hs
  obtain ⟨p', h1, h2, h3, _, h5⟩ := moveAssign_spec hi ho hs hne hb
  exact ⟨p', _, _, h1, h2, hb, h5, moved_from_usable hne h2 h3 h5⟩

/-! ### fault level (used by C19): `new` precedes `delete[]` in `expand_buffer` -/

/-- an `append` whose allocation fails throws `bad_alloc` and leaves every stream, every block and the
    invariant exactly as they were (only the fault-schedule counter has advanced) -/
theorem append_fault_safe {p : Pool} (hi : Inv p) {o : Nat} {s : Obj} (ho : p.objs o = some s) (bytes : List Nat) (p' : Pool)
    (h : append o bytes p = .throw .badAlloc p') :
    p'.objs = p.objs ∧ p'.heap = p.heap ∧ p'.next = p.next ∧ Inv p' ∧ abs p' = abs p := by
  rcases append_spec hi ho (abs_live ho) bytes with ⟨p'', _, h1, _⟩ | ⟨h1, _⟩ <;> (rw [h1] at h; cases h)
  exact ⟨rfl, rfl, rfl, inv_allocs hi _, rfl⟩

theorem append_char_fault_safe {p : Pool} (hi : Inv p) {o : Nat} {s : Obj} (ho : p.objs o = some s) (ch n : Nat) (p' : Pool)
    (h : appendChar o ch n p = .throw .badAlloc p') :
    p'.objs = p.objs ∧ p'.heap = p.heap ∧ p'.next = p.next ∧ Inv p' ∧ abs p' = abs p :=
  append_fault_safe hi ho _ p' (appendChar_eq_append o ch n ▸ h)

/-- under *any* fault schedule every admissible operation returns or throws (`unicode_error`,
    `bad_alloc`) — it never faults or hangs — and leaves a pool satisfying `Inv`, i.e. every stream
    still usable and destructible, nothing leaked.  A throwing operation leaves what every stream shows
    unchanged (strong guarantee; for the signed-number `operator<<` this holds since its repair). -/
theorem step_fault_safe {p : Pool} (hi : Inv p) (op : Op) (hwf : op.wf) (hok : ByteLog.ok (abs p) op.toSpec = true) :
    ∃ p', Inv p' ∧
      ((op.run R p = .ok () p' ∧ abs p' = ByteLog.step (abs p) op.toSpec) ∨
       (op.run R p = .throw .unicodeError p' ∧ abs p' = abs p) ∨
       (op.run R p = .throw .badAlloc p' ∧ p.failAt ≠ none ∧ abs p' = abs p)) := by
  rcases step_sound hi op hwf hok with ⟨p', h1, h2, h3, _⟩ | ⟨p', h1, h2, h3, _⟩ | ⟨p', h1, h2, h3, _, h5⟩
  · exact ⟨p', h2, Or.inl ⟨h1, h3⟩⟩
  · exact ⟨p', h2, Or.inr (Or.inl ⟨h1, h3⟩)⟩
  · exact ⟨p', h2, Or.inr (Or.inr ⟨h1, h3, h5⟩)⟩

/-- **integer insertion appends the canonical decimal text.**  In the machine model the digits of
    `ss << v` are a parameter of `Op.appendNum`; C12 (`stream_canonical`) proves that the stream's own
    formatter (`uint_formatter` behind `operator<<(int … unsigned long long)`, with the promotions of
    the narrow types) produces sign and digits of the canonical text for every value of every integer
    type.  Together: the operation the code performs for `ss << v` is, at the level of the byte log,
    `append (intText 10 v)` — so `stream_refines` covers integer insertions with no assumption left
    on the digits. -/
theorem int_insertion_appends_canonical (o : Nat) (t : Num.IntTy) (v : Int) (hv : t.holds v) :
    ∃ neg ds, Num.streamInt t v = .ok ((if neg then [45] else []) ++ ds) ∧
      (Op.appendNum o neg ds).toSpec = .append o (Digits.intText 10 false v) := by
  refine ⟨decide (v < 0), Digits.natText 10 false v.natAbs, ?_, ?_⟩
  · rw [StVerif.Props.C12.stream_canonical t v hv]; simp [Digits.intText]
  · simp [Op.toSpec, Digits.intText]

/-- non-vacuity: the most negative `long` -/
example : (Num.IntTy.s64).holds (-9223372036854775808) := by decide

/-- the signed-number overloads as first read (`append_char('-')`, then `append(digits)`): `ss << -5` on a
    stream of 255 bytes whose growth fails had appended the '-' (size 256) when `bad_alloc` arrived … -/
theorem pinned_signed_number_partial_append :
    (match runOps R [.ctor 0, .appendChar 0 65 255] Pool.init with
     | .ok _ p => (match appendNumAsFound 0 true [53] { p with allocs := 0, failAt := some 1 } with
        | .throw .badAlloc p' => (abs p' 0).map List.length
        | _ => none)
     | _ => none) = some 256 := by decide +kernel

/-- … the repaired overloads leave the 255 bytes -/
theorem repaired_signed_number_unchanged :
    (match runOps R [.ctor 0, .appendChar 0 65 255] Pool.init with
     | .ok _ p => (match appendNum 0 true [53] { p with allocs := 0, failAt := some 1 } with
        | .throw .badAlloc p' => (abs p' 0).map List.length
        | _ => none)
     | _ => none) = some 255 := by decide +kernel

def hello : List Nat := [72, 101, 108, 108, 111]

def isStuck : Res Unit → Bool
  | .fault .stuck _ => true
  | _ => false

/-- `ss << "Hello"; string_stream t(std::move(ss)); ss.append("!")` never returns -/
theorem pinned_moved_from_append_stuck :
    isStuck (runOps .pinned [.ctor 0, .append 0 hello, .moveCtor 1 0, .append 0 [33]] Pool.init) = true := by
  decide +kernel

/-- … and the same through move assignment and `append_char` -/
theorem pinned_move_assigned_from_append_stuck :
    isStuck (runOps .pinned [.ctor 0, .append 0 hello, .ctor 1, .moveAssign 1 0, .appendChar 0 33 1] Pool.init) = true := by
  decide +kernel

/-- the moved-from stream still reports its old bytes (size 5), where the spec says it is empty -/
theorem pinned_moved_from_keeps_size :
    (match runOps .pinned [.ctor 0, .append 0 hello, .moveCtor 1 0] Pool.init with
     | .ok _ p => abs p 0
     | _ => none) = some hello ∧
    ByteLog.run ByteLog.State.init ([Op.ctor 0, .append 0 hello, .moveCtor 1 0].map Op.toSpec) 0 = some [] := by
  decide +kernel

/-- in heap mode its `raw_buffer()` is the block the new owner holds -/
theorem pinned_moved_from_aliases :
    (match runOps .pinned [.ctor 0, .appendChar 0 65 300, .moveCtor 1 0] Pool.init with
     | .ok _ p => (match p.objs 0, p.objs 1 with
        | some a, some b => decide (a.chars = b.chars ∧ a.chars = .heap 0)
        | _, _ => false)
     | _ => false) = true := by
  decide +kernel

/-- the repaired operations on the same histories: the source is empty and appendable -/
theorem repaired_same_histories :
    (match runOps R [.ctor 0, .append 0 hello, .moveCtor 1 0, .append 0 [33]] Pool.init with
     | .ok _ p => (abs p 0, abs p 1)
     | _ => (none, none)) = (some [33], some hello) := by
  decide +kernel

/-! ### non-vacuity: an admissible history that crosses the 256-byte boundary, doubles twice, moves in
    both storage modes and re-uses the moved-from stream -/
example : HistOk ByteLog.State.init
    [.ctor 0, .appendChar 0 65 255, .append 0 [66], .append 0 [67], .appendChar 0 68 1000, .moveCtor 1 0, .append 0 hello,
     .ctor 2, .moveAssign 2 0, .truncate 1 3, .erase 1 1, .appendNum 2 true [49], .toString 1 true .checkValidity,
     .moveAssign 1 2, .dtor 0, .dtor 1, .dtor 2] := by
  simp only [HistOk, Op.wf, Op.toSpec]
  decide +kernel

end StVerif.Props.C16
