/-
  C03 — conversions are total and memory-safe on arbitrary input (model level: the two passes
  agree, nothing is stored past the measured size, every outcome is a value or unicode_error).
  What is proved here is the arithmetic that makes reads outside the input and writes outside the
  result impossible; the loads of the translated functions themselves are in Props/C03Tie.lean.
-/
import StVerif.Lemmas.UtfString

namespace StVerif.Props.C03
open StVerif.Utf StVerif.Generated StVerif.Lemmas.Utf
open StVerif.Spec.Unicode

/-- every conversion of fewer than 2^28 arbitrary units either returns a buffer or throws
    `unicode_error`: no assertion, no out-of-bounds store, no unwritten tail, no other exception -/
theorem convert_total (src dst : Enc) (hne : src ≠ dst) (m : Mode) (subst : Bool) (xs : List Nat)
    (hu : UnitsLt (unitBound src) xs) (hlen : xs.length < hugeBufferSize) :
    (∃ out, convert src dst m subst (some xs) = .ok out) ∨ convert src dst m subst (some xs) = .throw .unicodeError := by
  rw [convert_eq_reference src dst hne m subst xs hu hlen]
  exact reference_ok_or_throw src dst m subst xs

/-- null pointer with zero length: an empty result -/
theorem convert_null (src dst : Enc) (m : Mode) (subst : Bool) : convert src dst m subst none = .ok [] := rfl

/-- two-pass consistency: whenever the model returns a buffer, the fill pass stored exactly the
    measured number of units (so `size()` equals the units held and nothing is left unwritten) -/
theorem measure_eq_fill (src dst : Enc) (m : Mode) (subst : Bool) (xs out : List Nat)
    (h : convert src dst m subst (some xs) = .ok out) : out.length = Utf.measure src dst xs :=
  convert_ok_length src dst m subst xs out h

/-- on the throwing path nothing was stored past the allocation either -/
theorem fill_le_measure (src dst : Enc) (hne : src ≠ dst) (m : Mode) (subst : Bool) (xs : List Nat)
    (hu : UnitsLt (unitBound src) xs) :
    (fill (stepCh src dst m subst) (decode src xs)).out.length ≤ Utf.measure src dst xs := by
  have hf := fill_ref src dst hne m subst (decode_rel src xs hu)
  cases hr : refSteps src dst m subst (seg src xs) with
  | some out => obtain ⟨he, hl⟩ := hf.1 out hr; rw [he]; unfold Utf.measure; simp only; omega
  | none => exact (hf.2 hr).2

/-- the size of the result is exactly the size of the reference transcoding under the same mode -/
theorem size_is_reference (src dst : Enc) (hne : src ≠ dst) (m : Mode) (subst : Bool) (xs out : List Nat)
    (hu : UnitsLt (unitBound src) xs) (hlen : xs.length < hugeBufferSize)
    (h : convert src dst m subst (some xs) = .ok out) :
    reference src dst m subst xs = .ok out ∧ out.length = Utf.measure src dst xs :=
  ⟨by rw [← convert_eq_reference src dst hne m subst xs hu hlen]; exact h, measure_eq_fill src dst m subst xs out h⟩

/-- the extraction flag can never be mistaken for a decoded value (so `char_error` is exact) -/
theorem flags_never_collide (src : Enc) (xs : List Nat) (hu : UnitsLt (unitBound src) xs) (hs : src = .utf8 ∨ src = .utf16) :
    All2 (fun ch sg => match sg with | Seg.good v _ => ch = v ∧ charError ch = 0 | Seg.bad _ => charError ch ≠ 0)
      (decode src xs) (seg src xs) := by
  refine All2.imp (fun ch sg hr => ?_) (decode_rel src xs hu)
  have hF := hr.relF hs
  cases sg with
  | good v us => exact ⟨hF.1, by rw [hF.1]; exact charError_of_lt hF.2⟩
  | bad u => exact hF.1

/-- `ST::string` construction from UTF-8 bytes is total as well -/
theorem string_total (m : Mode) (xs : List Nat) (_hb : Bytes xs) (hlen : xs.length < hugeBufferSize) :
    (∃ out, stringSetUtf8 m (some xs) = .ok out) ∨ stringSetUtf8 m (some xs) = .throw .unicodeError := by
  rw [stringSet_eq_reference m xs _hb hlen]
  cases m with
  | assumeValid => exact .inl ⟨_, rfl⟩
  | _ => exact reference_ok_or_throw ..

/-- `to_utf16 / to_utf32 / to_wchar / to_latin_1` of a string holding arbitrary bytes are total -/
theorem string_to_total (dst : Enc) (subst : Bool) (xs : List Nat) (hb : Bytes xs) (hlen : xs.length < hugeBufferSize) :
    (∃ out, stringTo dst subst xs = .ok out) ∨ stringTo dst subst xs = .throw .unicodeError := by
  cases dst with
  | utf8 => exact Or.inl ⟨xs, rfl⟩
  | _ => exact convert_total .utf8 _ (by decide) .assumeValid subst xs hb hlen

/-! non-vacuity, including the input that used to abort the process before the repair -/
example : convert .utf8 .utf16 .checkValidity true (some [0xF4, 0x90, 0x80, 0x80]) = .throw .unicodeError := by decide +kernel
example : convert .utf8 .utf16 .substituteInvalid true (some [0xF4, 0x90, 0x80, 0x80]) = .ok [0xFFFD] := by decide +kernel
example : convert .utf16 .utf8 .substituteInvalid true (some [0xD800]) = .ok [0xEF, 0xBF, 0xBD] := by decide +kernel

end StVerif.Props.C03
