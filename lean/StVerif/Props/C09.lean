/-
  C09 — split, tokenize and replace partition the text exactly; join inverts split.

  Vocabulary: `splitChar`, `splitCstr`, `splitStr` are the models of the three `split` overloads,
  `tokenize`, `replace` / `replaceScans` (the two scans with the allocated size) / `replaceArgs`
  (the four `replace` overloads) the models of the other members (Model/Split.lean, the repaired
  tree; every loop carries a progress guard whose failure is the outcome `stuck`).  `Spec.Split.*`
  is the Spec: `split` = pieces between the first `max` non-overlapping occurrences found left to
  right, `tokens` = maximal non-empty runs of non-delimiters, `replace` = the unlimited pieces joined
  by the replacement.  Subjects, separators, patterns and replacements are arbitrary lists (any
  bytes, embedded NUL included, empty, self-overlapping, longer than the subject); `max` ranges over
  all of `Nat`.
-/
import StVerif.Lemmas.Split
import StVerif.Lemmas.Utf8Split

namespace StVerif.Props.C09
open StVerif.Split StVerif.Search StVerif.Lemmas.Split
open StVerif.Slice (cBytes)
open StVerif.Generated (hugeBufferSize)

/-- `split(const ST::string &sep, max, cs)` returns the specified pieces — for every separator
    (the empty one included), every `max`, both case modes — and in particular terminates -/
theorem split_eq_spec (cs : CaseMode) (s sep : List Nat) (max : Nat) :
    splitStr cs s sep max = .ok (Spec.Split.split cs sep max s) := by
  unfold splitStr
  simp only [List.isEmpty_iff]
  split
  · next he => rw [he, split_nil_sep]
  · next hne => rw [splitLoop_run cs sep .ok _ (fun r => findRaw_eq_firstOcc cs r sep hne) max s, mkAll_ok]

/-- `split(char c, max, cs)` for an admissible split character (1..0x7F) -/
theorem split_char_eq_spec (cs : CaseMode) (s : List Nat) (c max : Nat) (h0 : c ≠ 0) (h1 : c < 0x80) :
    splitChar cs s c max = .ok (Spec.Split.split cs [c] max s) := by
  unfold splitChar
  rw [if_neg (not_or.2 ⟨h0, Nat.not_le.2 h1⟩)]
  exact (splitLoop_run cs [c] .ok _ (scanChar_eq_firstOcc cs c) max s).trans (mkAll_ok _)

/-- what the `const char*` overload does on top: every piece goes through the validating constructor -/
def pieceOk (sep piece : List Nat) : Prop :=
  piece.length < hugeBufferSize ∧ (splitterValidation sep = .checkValidity → Utf.validateUtf8 piece = 0)

theorem mk_of_pieceOk (sep piece : List Nat) (h : pieceOk sep piece) :
    Utf.stringSetUtf8 (splitterValidation sep) (some piece) = .ok piece := by
  unfold Utf.stringSetUtf8
  simp only []
  rw [if_neg (Nat.not_le.2 h.1)]
  cases hv : splitterValidation sep with
  | checkValidity => simp [h.2 hv]
  | assumeValid => rfl
  | substituteInvalid =>
    unfold splitterValidation at hv
    split at hv <;> cases hv

/-- `split(const char *sep, max, cs)`: the same pieces as the other overloads whenever every piece
    passes the overload's own re-validation (always the case for a splitter without high-bit bytes
    and pieces below `ST_HUGE_BUFFER_SIZE`; for a splitter with high-bit bytes, when the pieces are
    UTF-8) -/
theorem split_cstr_eq_spec (cs : CaseMode) (s p : List Nat) (max : Nat)
    (hok : ∀ piece ∈ Spec.Split.split cs (cBytes p) max s, pieceOk (cBytes p) piece) :
    splitCstr cs s (some p) max = .ok (Spec.Split.split cs (cBytes p) max s) := by
  rw [splitCstr_eq]
  split
  · next he => rw [he, split_nil_sep]
  · exact mkAll_of_all_ok _ _ fun q hq => mk_of_pieceOk (cBytes p) q (hok q hq)

/-- a splitter without high-bit bytes is never re-validated: the `const char*` overload agrees
    unconditionally (for subjects below `ST_HUGE_BUFFER_SIZE`) -/
theorem split_cstr_ascii (cs : CaseMode) (s p : List Nat) (max : Nat) (hs : s.length < hugeBufferSize)
    (hascii : splitterValidation (cBytes p) = .assumeValid) :
    splitCstr cs s (some p) max = .ok (Spec.Split.split cs (cBytes p) max s) := by
  refine split_cstr_eq_spec cs s p max fun piece hp => ⟨?_, fun h => by rw [hascii] at h; cases h⟩
  exact Nat.lt_of_le_of_lt (pieces_length_le cs (cBytes p) (s.length + 1) max s piece hp) hs

/-- at most `max + 1` pieces -/
theorem split_length_le (cs : CaseMode) (sep : List Nat) (max : Nat) (s : List Nat) :
    (Spec.Split.split cs sep max s).length ≤ max + 1 := splitAux_length_le cs sep (s.length + 1) max s

/-- case-sensitively, joining the pieces with the separator reproduces the original -/
theorem join_split (s sep : List Nat) (max : Nat) :
    ∃ pieces, splitStr .sensitive s sep max = .ok pieces ∧ pieces.length ≤ max + 1 ∧
      (sep ≠ [] → Spec.Split.join sep pieces = s) ∧ (sep = [] → pieces = [s]) :=
  ⟨_, split_eq_spec .sensitive s sep max, split_length_le .sensitive sep max s, fun _ => join_splitAux sep _ max s,
    fun h => by rw [h, split_nil_sep]⟩

/-- an empty separator (`ST::string()`, `""`) leaves the text whole, whatever `max` and the case mode -/
theorem empty_sep_whole (cs : CaseMode) (s : List Nat) (max : Nat) (p : List Nat) (hp : cBytes p = []) :
    splitStr cs s [] max = .ok [s] ∧ splitCstr cs s (some p) max = .ok [s] :=
  ⟨rfl, by rw [splitCstr_eq, if_pos hp]⟩

/-- case-insensitive matching folds ASCII letters only: the insensitive split cuts exactly where the
    case-sensitive split of the folded text by the folded separator cuts (`foldAscii` maps `A`–`Z`
    to `a`–`z` and is the identity on every other value, see `fold_only_ascii_letters`) -/
theorem ci_folds_ascii_only (sep : List Nat) (max : Nat) (s : List Nat) :
    (Spec.Split.split .insensitive sep max s).map (·.map Spec.Search.foldAscii) =
      Spec.Split.split .sensitive (sep.map Spec.Search.foldAscii) max (s.map Spec.Search.foldAscii) := by
  unfold Spec.Split.split
  rw [List.length_map]
  exact splitAux_fold sep (s.length + 1) max s

theorem fold_only_ascii_letters (c : Nat) :
    (0x41 ≤ c ∧ c ≤ 0x5A → Spec.Search.foldAscii c = c + 0x20) ∧ (¬ (0x41 ≤ c ∧ c ≤ 0x5A) → Spec.Search.foldAscii c = c) := by
  rw [← Lemmas.Search.lower_eq_foldAscii]
  exact ⟨fun h => if_pos h, fun h => if_neg h⟩

/-- the fuel in the Spec's recursion is only a device: any two sufficient fuels give the same pieces -/
theorem spec_fuel_irrelevant (cs : CaseMode) (sep : List Nat) (f1 f2 max : Nat) (s : List Nat)
    (h1 : s.length < f1) (h2 : s.length < f2) :
    Spec.Split.splitAux cs sep f1 max s = Spec.Split.splitAux cs sep f2 max s := splitAux_fuel cs sep f1 f2 max s h1 h2

/-- `tokenize(delims)` returns, in order, the specified tokens (and terminates) -/
theorem tokenize_eq_spec (s delims : List Nat) :
    tokenize s delims = .ok (Spec.Split.tokens (Spec.Slice.cString delims) s) := by
  unfold tokenize
  rw [tokLoop_eq (cBytes delims) (s.length + 1) s [] (Nat.lt_succ_self _), List.nil_append]
  rfl

theorem tokens_nonempty (d s : List Nat) : ∀ t ∈ Spec.Split.tokens d s, t ≠ [] :=
  StVerif.Lemmas.Split.tokens_nonempty d s

theorem tokens_no_delim (d s : List Nat) : ∀ t ∈ Spec.Split.tokens d s, ∀ c ∈ t, d.contains c = false :=
  StVerif.Lemmas.Split.tokens_no_delim d s

/-- the tokens are exactly the maximal non-empty runs of non-delimiters (`Spec.Split.Runs`: gap of
    delimiters, token ending at a delimiter or the end, …, covering the whole text) -/
theorem tokens_maximal (d s : List Nat) : Spec.Split.Runs (d.contains ·) s (Spec.Split.tokens d s) :=
  tokens_runs d s

/-- … and `Runs` pins the token list down: any list of runs satisfying it is the result of `tokenize` -/
theorem tokens_exactly (d s : List Nat) (ts : List (List Nat)) (h : Spec.Split.Runs (d.contains ·) s ts) :
    ts = Spec.Split.tokens d s := runs_eq_tokens d s ts h

/-- the result fits `size_t` (always the case for strings that exist) -/
def Fits (cs : CaseMode) (s pat to : List Nat) : Prop :=
  s.length < 2^64 ∧ (Spec.Split.replace cs pat to s).length < 2^64

/-- the bytes the copying scan stores are exactly as many as the counting scan allocated: the fill
    neither overruns the buffer nor leaves a tail unwritten -/
theorem replace_scans_agree (cs : CaseMode) (s pat to : List Nat) (hf : Fits cs s pat to) :
    ∃ r, replaceScans cs s pat to = .ok r ∧ r.bytes.length = r.outsize :=
  ⟨_, replaceScans_eq cs s pat to hf.1 hf.2, rfl⟩

/-- `replace(from, to, cs)` substitutes every non-overlapping left-to-right occurrence and nothing else -/
theorem replace_eq_spec (cs : CaseMode) (s pat to : List Nat) (hf : Fits cs s pat to) :
    Split.replace cs s pat to = .ok (Spec.Split.replace cs pat to s) := by
  unfold Split.replace
  simp only []
  rw [replaceScans_eq cs s pat to hf.1 hf.2]
  rfl

/-- the result has length `size + k·(|to| − |from|)` for `k` occurrences -/
theorem replace_len (cs : CaseMode) (s pat to : List Nat) :
    ((Spec.Split.replace cs pat to s).length : Int) =
      (s.length : Int) + (Spec.Split.occurrences cs pat s : Int) * ((to.length : Int) - (pat.length : Int)) :=
  join_splitAux_length cs pat to (s.length + 1) s.length s

/-- an empty pattern (or an empty subject) leaves the text whole -/
theorem replace_empty (cs : CaseMode) (s to : List Nat) :
    Split.replace cs s [] to = .ok s ∧ Split.replace cs [] s to = .ok [] := by
  constructor
  · unfold Split.replace replaceScans
    rw [if_pos (Or.inr List.isEmpty_nil)]
    rfl
  · unfold Split.replace replaceScans
    rw [if_pos (Or.inl List.isEmpty_nil)]
    rfl

/-- char ≍ one-byte `ST::string`; `const char*` ≍ the `ST::string` of its bytes (for splitters
    whose pieces pass the re-validation, see `split_cstr_eq_spec`) -/
theorem split_forms_agree (cs : CaseMode) (s : List Nat) (max : Nat) :
    (∀ c, c ≠ 0 → c < 0x80 → splitChar cs s c max = splitStr cs s [c] max) ∧
    (∀ p, (∀ piece ∈ Spec.Split.split cs (cBytes p) max s, pieceOk (cBytes p) piece) →
      splitCstr cs s (some p) max = splitStr cs s (cBytes p) max) := by
  constructor
  · intro c h0 h1
    rw [split_char_eq_spec cs s c max h0 h1, split_eq_spec]
  · intro p hok
    rw [split_cstr_eq_spec cs s p max hok, split_eq_spec]

/-- every piece of the split of well-formed UTF-8 text by a well-formed separator is well-formed
    UTF-8 again (occurrences begin and end on character boundaries, in both case modes) -/
theorem split_pieces_utf8 (cs : CaseMode) (s sep : List Nat) (max : Nat)
    (hvs : Utf.validateUtf8 s = 0) (hvp : Utf.validateUtf8 sep = 0) :
    ∀ piece ∈ Spec.Split.split cs sep max s, Utf.validateUtf8 piece = 0 := by
  intro piece hp
  exact (StVerif.Lemmas.Utf8Split.valid_iff piece).1
    (StVerif.Lemmas.Utf8Split.splitAux_valid cs sep ((StVerif.Lemmas.Utf8Split.valid_iff sep).2 hvp) (s.length + 1) max s
      ((StVerif.Lemmas.Utf8Split.valid_iff s).2 hvs) piece hp)

/-- on a well-formed UTF-8 subject and separator the re-validating `const char*` overload returns
    the same pieces as the `ST::string` overload: all three overloads agree -/
theorem split_forms_agree_utf8 (cs : CaseMode) (s p : List Nat) (max : Nat) (hs : s.length < hugeBufferSize)
    (hvs : Utf.validateUtf8 s = 0) (hvp : Utf.validateUtf8 (cBytes p) = 0) :
    splitCstr cs s (some p) max = splitStr cs s (cBytes p) max := by
  rw [split_eq_spec]
  apply split_cstr_eq_spec
  intro piece hp
  exact ⟨Nat.lt_of_le_of_lt (pieces_length_le cs (cBytes p) (s.length + 1) max s piece hp) hs,
    fun _ => split_pieces_utf8 cs s (cBytes p) max hvs hvp piece hp⟩

/-- the four `replace` overloads agree: with arguments that convert, under the call's validation
    mode, to the `ST::string`s `pb` and `tb`, the call is `replace(pb, tb)`.  Under `assume_valid` a
    `const char*` converts to the bytes before its first NUL and a null pointer to the empty string
    (`arg_toString_assume`) -/
theorem replace_forms_agree (cs : CaseMode) (m : Mode) (s : List Nat) (pa ta : Arg) (pb tb : List Nat)
    (hp : pa.toString m = .ok pb) (ht : ta.toString m = .ok tb) :
    replaceArgs cs m s pa ta = Split.replace cs s pb tb := by
  unfold replaceArgs
  rw [hp, ht]
  rfl

theorem arg_toString_assume (p : List Nat) (hl : (cBytes p).length < hugeBufferSize) :
    (Arg.cstr (some p)).toString .assumeValid = .ok (cBytes p) ∧ (Arg.cstr none).toString .assumeValid = .ok [] ∧
    ∀ b, (Arg.str b).toString .assumeValid = .ok b := by
  refine ⟨?_, rfl, fun b => rfl⟩
  unfold Arg.toString Utf.stringSetUtf8
  simp only []
  rw [if_neg (Nat.not_le.2 hl)]

/-- the three `split` forms and `tokenize` never get stuck: their loops make progress on every input -/
theorem terminates (cs : CaseMode) (s sep : List Nat) (max c : Nat) (p delims : List Nat) :
    splitStr cs s sep max ≠ .stuck ∧ splitChar cs s c max ≠ .stuck ∧ splitCstr cs s (some p) max ≠ .stuck ∧
    tokenize s delims ≠ .stuck := by
  refine ⟨?_, ?_, (splitCstr_returns cs s p max).ne_stuck, ?_⟩
  · rw [split_eq_spec]; nofun
  · by_cases hc : c ≠ 0 ∧ c < 0x80
    · rw [split_char_eq_spec cs s c max hc.1 hc.2]; nofun
    · -- not an admissible split character: the assertion fires before the loop
      unfold splitChar
      rw [if_pos (by omega)]; nofun
  · rw [tokenize_eq_spec]; nofun

/-! ### the defects of the tree before the repairs (`Rev.pinned`), as machine-checked witnesses -/

/-- `ST::string("a\0b",3).split(ST::string(), 5)` gave `a, "", "", "", "", "\0b"`; with the default
    `max_splits` the loop did not end -/
theorem pinned_split_empty_sep_witness :
    splitStr .sensitive [97, 0, 98] [] 5 .pinned = .ok [[97], [], [], [], [], [0, 98]] ∧
    splitStr .sensitive [97, 0, 98] [] SIZE_MAX .pinned = .stuck ∧
    splitCstr .insensitive [0] (some []) SIZE_MAX .pinned = .stuck ∧
    Spec.Split.split .sensitive [] 5 [97, 0, 98] = [[97, 0, 98]] := by decide +kernel

/-- `replace` re-validated its result: a subject holding a byte that is not UTF-8 made it throw
    even with nothing to replace -/
theorem pinned_replace_revalidates_witness :
    Split.replace .sensitive [0xFF] [97] [98] .pinned = .throw .unicodeError ∧
    Split.replace .sensitive [97, 97, 0xC3] [97] [98] .pinned = .throw .unicodeError ∧
    Spec.Split.replace .sensitive [97] [98] [97, 97, 0xC3] = [98, 98, 0xC3] := by decide +kernel

example : splitStr .sensitive [97, 44, 98, 44, 44, 99] [44] 2 = .ok [[97], [98], [44, 99]] := by decide +kernel
example : tokenize [32, 97, 98, 32, 32, 99] Slice.whitespace = .ok [[97, 98], [99]] := by decide +kernel
example : Split.replace .insensitive [97, 65, 97, 98] [97, 97] [120] = .ok [120, 97, 98] := by decide +kernel
example : Fits .sensitive [97, 97, 97] [97, 97] [98] := ⟨by decide, by decide⟩
example : pieceOk [44] [97, 0xFF] := ⟨by decide, by decide⟩

end StVerif.Props.C09
