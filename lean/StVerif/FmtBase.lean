/-
  Shared vocabulary of the formatting properties (C10, C11): the *public* types of
  include/st_formatter.h (`alignment_t`, `digit_class_t`, `float_class_t`, `format_spec`),
  the argument values a format call may receive, and the model of the one libc routine the
  parser calls (`strtol(…, 10)`), which both the Spec grammar and the code model refer to.
-/
import StVerif.Base
import StVerif.Model.Utf

namespace StVerif.Fmt

inductive Align where
  | dflt | left | right
  deriving DecidableEq, Repr, Inhabited

inductive DigitClass where
  | dflt | dec | hex | hexUpper | oct | bin | chr
  deriving DecidableEq, Repr, Inhabited

inductive FloatClass where
  | dflt | fixed | exp | expUpper
  deriving DecidableEq, Repr, Inhabited

/-- `struct ST::format_spec` with the values of its default constructor -/
structure FormatSpec where
  minimumLength : Int := 0
  precision : Int := -1
  argIndex : Int := -1
  alignment : Align := .dflt
  digitClass : DigitClass := .dflt
  floatClass : FloatClass := .dflt
  pad : Nat := 0
  alwaysSigned : Bool := false
  classPrefix : Bool := false
  numericPad : Bool := false
  deriving DecidableEq, Repr, Inhabited

/-- An argument of a format call, by the overload of `format_type` it selects.
    Integer kinds carry the mathematical value and the width of the C++ type; all narrow string
    kinds (`const char *`, `ST::string`, `std::string`, `std::string_view`) carry their bytes.
    A floating-point argument is its rendering function (what `snprintf` gives for the assembled
    format: sign flag, precision or none, conversion class) — opaque here, see C13. -/
inductive Arg where
  | sint (w : Nat) (v : Int)       -- signed char / short / int / long / long long
  | uint (w : Nat) (v : Nat)       -- unsigned char … unsigned long long
  | char (v : Int)                 -- plain `char` (signed on this platform)
  | wchar (v : Int)                -- `wchar_t` (signed 32-bit on this platform)
  | char8 (v : Nat)
  | char16 (v : Nat)
  | char32 (v : Nat)
  | bool (b : Bool)
  | str (bs : List Nat)
  | nullStr                        -- `const char *` (or wide character pointer) null pointer
  | wide (src : Utf.Enc) (m : Mode) (units : List Nat)
      -- wide text: `const wchar_t* / char16_t* / char32_t*` (the units in front of the first zero unit),
      -- `std::basic_string` / `std::basic_string_view` of those types (all units); wchar_t is the
      -- UTF-32 route on this platform.  `format_type` builds an `ST::string` from it under the
      -- default validation `m` of the build (`ST_DEFAULT_VALIDATION`: `from_utf16 / from_utf32 / from_wchar`
      -- are called without a mode), then formats its UTF-8 bytes
  | float (render : Bool → Option Nat → FloatClass → List Nat)
  deriving Inhabited

/-- wide text: the units fit their C++ type (`char16_t`; `char32_t` / `wchar_t`) and the text is
    below the documented 2^28-unit limit of the conversion functions; vacuous for other arguments -/
def Arg.WideOk : Arg → Prop
  | .wide src _ us => ((src = .utf16 ∧ UnitsLt 65536 us) ∨ (src = .utf32 ∧ UnitsLt (2 ^ 32) us)) ∧ us.length < Generated.hugeBufferSize
  | _ => True

/-- the values of the argument lie in the range of its C++ type -/
def Arg.InRange : Arg → Prop
  | .sint w v => (w = 8 ∨ w = 16 ∨ w = 32 ∨ w = 64) ∧ -(2 ^ (w - 1) : Int) ≤ v ∧ v < (2 ^ (w - 1) : Int)
  | .uint w v => (w = 8 ∨ w = 16 ∨ w = 32 ∨ w = 64) ∧ v < 2 ^ w
  | .char v => -128 ≤ v ∧ v < 128
  | .wchar v => -(2 ^ 31 : Int) ≤ v ∧ v < (2 ^ 31 : Int)
  | .char8 v => v < 256
  | .char16 v => v < 2 ^ 16
  | .char32 v => v < 2 ^ 32
  | .bool _ => True
  | .str bs => bs.length < 2 ^ 31
  | .nullStr => True
  | .wide src m us => (Arg.wide src m us).WideOk
  | .float _ => True

/-- libc's `snprintf` reports a positive size for every rendering of this argument (vacuous for
    non-floating arguments).  This is libc's contract for `%g %f %e %E` with any precision it can
    carry out; it fails only in a region that lies outside the property's domain: a precision of
    about 2^31 makes glibc return a negative value, and every precision ≥ 2^28 would need a result
    beyond the documented 2^28-byte limit of `ST::string` anyway.  Nothing is assumed about the
    *length* of the rendering: 64 bytes and more are rendered again into a heap buffer. -/
def Arg.LibcRenders : Arg → Prop
  | .float r => ∀ plus prec cls, 0 < (r plus prec cls).length
  | _ => True

/-- the argument kinds the character class `c` applies to -/
def Arg.IsIntegral : Arg → Bool
  | .sint _ _ | .uint _ _ | .char _ | .wchar _ | .char8 _ | .char16 _ | .char32 _ => true
  | _ => false

/-! ### `strtol(s, &end, 10)` as glibc implements it in the "C" locale

  Skips `isspace` characters, takes an optional sign, then decimal digits; the value saturates
  at `LONG_MIN`/`LONG_MAX`; with no digit nothing is consumed (`end == s`) and the value is 0.
  The routine stops at the first byte that cannot continue the numeral, so on a NUL-terminated
  string it never looks behind the terminator: it is modelled on the list of bytes in front of
  the NUL.  This definition is validated against the platform libc by the correspondence run,
  not proved. -/

def isSpace (c : Nat) : Bool := c == 32 || (9 ≤ c && c ≤ 13)
def isDigit (c : Nat) : Bool := 48 ≤ c && c ≤ 57

/-- leading decimal digits: (value, how many) -/
def digitsVal : List Nat → Nat → Nat × Nat
  | [], acc => (acc, 0)
  | c :: rest, acc =>
    if isDigit c then
      let r := digitsVal rest (acc * 10 + (c - 48))
      (r.1, r.2 + 1)
    else (acc, 0)

def LONG_MAX : Int := 2 ^ 63 - 1
def LONG_MIN : Int := -(2 ^ 63)

/-- number of leading `isspace` bytes -/
def skipSpace : List Nat → Nat
  | [] => 0
  | c :: rest => if isSpace c then skipSpace rest + 1 else 0

def signLen : List Nat → Nat
  | 45 :: _ => 1
  | 43 :: _ => 1
  | _ => 0

def isNeg : List Nat → Bool
  | 45 :: _ => true
  | _ => false

def satLong (neg : Bool) (m : Nat) : Int :=
  if neg then (if (m : Int) > 2 ^ 63 then LONG_MIN else -(m : Int))
  else (if (m : Int) > LONG_MAX then LONG_MAX else (m : Int))

/-- (value, number of bytes consumed) -/
def strtol10 (s : List Nat) : Int × Nat :=
  let ws := skipSpace s
  let s1 := s.drop ws
  let sg := signLen s1
  let r := digitsVal (s1.drop sg) 0
  if r.2 = 0 then (0, 0) else (satLong (isNeg s1) r.1, ws + sg + r.2)

/-- `static_cast<int>(long)` -/
def longToInt (v : Int) : Int := toI32 (wrap64 v)

theorem digitsVal_le (s : List Nat) (acc : Nat) : (digitsVal s acc).2 ≤ s.length := by
  induction s generalizing acc with
  | nil => simp [digitsVal]
  | cons c rest ih =>
    simp only [digitsVal]
    split
    · have := ih (acc * 10 + (c - 48)); simp only [List.length_cons]; omega
    · simp

theorem skipSpace_le (s : List Nat) : skipSpace s ≤ s.length := by
  induction s with
  | nil => simp [skipSpace]
  | cons c rest ih => simp only [skipSpace]; split <;> simp <;> omega

theorem signLen_le (s : List Nat) : signLen s ≤ s.length := by
  unfold signLen; split <;> simp

theorem strtol10_le (s : List Nat) : (strtol10 s).2 ≤ s.length := by
  unfold strtol10
  simp only
  split
  · simp
  · have h1 := skipSpace_le s
    have h2 := signLen_le (s.drop (skipSpace s))
    have h3 := digitsVal_le ((s.drop (skipSpace s)).drop (signLen (s.drop (skipSpace s)))) 0
    simp only [List.length_drop] at h2 h3
    simp only
    omega

end StVerif.Fmt
