/-
  The little machine the generated kernels (StVerif/Generated/Kernels.lean, written by
  tools/gen_kernels.py from the clang AST of the library) run in.

  * the source range of a function is `mem : List Nat`, a pointer into it is an index;
    a read outside the list is the fault `oobRead` (never a default value);
  * `rd8 / rd16 / rd32` read one unit of an unsigned 8/16/32-bit element type;
  * `fuel` is what a translated loop reports when its fuel argument runs out.
-/
namespace StVerif.Cxx

inductive Fault where
  | oobRead (idx : Nat)
  | overflow (what : String)
  | assertFail (msg : String)
  | fuel
  deriving Repr, DecidableEq

abbrev M := Except Fault

def rd (mem : List Nat) (i : Nat) : M Nat :=
  match mem[i]? with
  | some v => .ok v
  | none => .error (.oobRead i)

/-- the byte `b` as the `char` (signed on this platform) the C++ code reads -/
def toChar (b : Nat) : Int := if b < 128 then (b : Int) else (b : Int) - 256

def rdI (tbl : List Int) (i : Nat) : M Int :=
  match tbl[i]? with
  | some v => .ok v
  | none => .error (.oobRead i)

/-- the result of signed arithmetic in a `bits`-wide type: outside the type's range the C++ behaviour is undefined
    and the translation faults -/
def chkS (bits : Nat) (x : Int) : M Int :=
  if -(2 : Int) ^ (bits - 1) ≤ x ∧ x < (2 : Int) ^ (bits - 1) then .ok x else .error (.overflow "signed arithmetic")

def rdRange (mem : List Nat) (i n : Nat) : M (List Nat) :=
  if i + n ≤ mem.length then .ok ((mem.drop i).take n) else .error (.oobRead (i + n))

/-- one call on an `ST::format_writer`: `append(data, size)` with the bytes passed, `append_char(ch, count)` -/
inductive Ev where
  | append (bs : List Nat)
  | appendChar (c n : Nat)
  deriving Repr, DecidableEq

/-- a divisor: zero is undefined behaviour in C++, a fault here -/
def chkNZ (x : Nat) : M Nat := if x = 0 then .error (.overflow "division by zero") else .ok x

/-- `*--cursor = x` into a buffer that holds `cap` units before its terminator: a fault if the text would start before the buffer -/
def pushFront (cap : Nat) (x : Nat) (l : List Nat) : M (List Nat) :=
  if l.length < cap then .ok (x :: l) else .error (.overflow "write before the start of the buffer")

abbrev rd8 := rd
abbrev rd16 := rd
abbrev rd32 := rd

@[simp] theorem rd_of_getElem? {mem : List Nat} {i v : Nat} (h : mem[i]? = some v) : rd mem i = .ok v := by
  simp [rd, h]

@[simp] theorem rd_of_none {mem : List Nat} {i : Nat} (h : mem[i]? = none) : rd mem i = .error (.oobRead i) := by
  simp [rd, h]

theorem rd_lt (mem : List Nat) (p : Nat) (hp : p < mem.length) :
    ∃ v, rd mem p = .ok v ∧ mem.drop p = v :: mem.drop (p + 1) :=
  ⟨mem[p], rd_of_getElem? (List.getElem?_eq_getElem hp), List.drop_eq_getElem_cons hp⟩

/-- A call that returns, together with what follows it.  Used as the pre-rewrite `↓bind_of_ok h`: `simp` then puts the
    value in place before it enters the rest of the body, decides the tests on the value first and so walks one path of
    the function, once.  Without the `↓` it simplifies the whole body under the binder, rewrites the call, and simplifies
    the body again. -/
theorem bind_of_ok {α β : Type} {x : M α} {a : α} (h : x = .ok a) (f : α → M β) : (x >>= f) = f a :=
  h ▸ rfl

theorem mem_of_rd {mem : List Nat} {p v : Nat} (h : rd mem p = .ok v) : v ∈ mem := by
  unfold rd at h
  split at h
  · next hv => cases h; exact List.mem_of_getElem? hv
  · cases h

@[simp] theorem ok_bind {α β : Type} (a : α) (f : α → M β) : ((Except.ok a : M α) >>= f) = f a := rfl
@[simp] theorem error_bind {α β : Type} (e : Fault) (f : α → M β) : ((Except.error e : M α) >>= f) = Except.error e := rfl
@[simp] theorem throw_eq_error {α : Type} (e : Fault) : (throw e : M α) = Except.error e := rfl
@[simp] theorem pure_eq_ok {α : Type} (a : α) : (pure a : M α) = Except.ok a := rfl

instance {α : Type} [DecidableEq α] : DecidableEq (M α) := fun a b =>
  match a, b with
  | .ok x, .ok y => if h : x = y then isTrue (by rw [h]) else isFalse (fun e => h (by cases e; rfl))
  | .error x, .error y => if h : x = y then isTrue (by rw [h]) else isFalse (fun e => h (by cases e; rfl))
  | .ok _, .error _ => isFalse (fun e => by cases e)
  | .error _, .ok _ => isFalse (fun e => by cases e)

def isOk {α : Type} : M α → Bool
  | .ok _ => true
  | .error _ => false

@[simp] theorem isOk_ok {α : Type} (a : α) : isOk (Except.ok a : M α) = true := rfl
@[simp] theorem isOk_error {α : Type} (e : Fault) : isOk (Except.error e : M α) = false := rfl

theorem isOk_iff {α : Type} (x : M α) : isOk x = true ↔ ∃ a, x = .ok a := by
  cases x <;> simp [isOk]

/-- a `bool` argument as the translated functions take it (1 or 0), tested -/
theorem flag_ne_zero (b : Bool) : (if b then 1 else 0 : Nat) ≠ 0 ↔ b = true := by cases b <;> decide

/-- the cascade of tests the translator writes for `if (a || b)`: the same branch twice -/
theorem ite_cascade_or {α : Type} (a b : Prop) [Decidable a] [Decidable b] (x y : α) :
    (if a then x else if b then x else y) = if a ∨ b then x else y := by
  by_cases ha : a <;> by_cases hb : b <;> simp [ha, hb]

theorem ite_cascade_and {α : Type} (a b : Prop) [Decidable a] [Decidable b] (x y : α) :
    (if a then if b then x else y else y) = if a ∧ b then x else y := by
  by_cases ha : a <;> by_cases hb : b <;> simp [ha, hb]

end StVerif.Cxx
