/-
  What a formatter does to its sink: the two virtual members of `ST::format_writer`
  (include/st_formatter.h:114-115).  Every sink (string, stdio, iostream, user supplied) sees
  exactly this sequence; its meaning is the concatenation `flatten`.
-/
namespace StVerif.Fmt

/-- one call on the `format_writer` -/
inductive Event where
  /-- `append(const char *data, size_t size)` with the bytes passed -/
  | append (bs : List Nat)
  /-- `append_char(char ch, size_t count)` -/
  | appendChar (c n : Nat)
  deriving Repr, DecidableEq, Inhabited

def Event.bytes : Event → List Nat
  | .append bs => bs
  | .appendChar c n => List.replicate n c

def flatten (ev : List Event) : List Nat := ev.flatMap Event.bytes

@[simp] theorem flatten_nil : flatten [] = [] := rfl
@[simp] theorem flatten_cons (e : Event) (ev : List Event) : flatten (e :: ev) = e.bytes ++ flatten ev := by
  simp [flatten]
@[simp] theorem flatten_append (a b : List Event) : flatten (a ++ b) = flatten a ++ flatten b := by
  simp [flatten]

end StVerif.Fmt
