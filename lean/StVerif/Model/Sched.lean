/-
  Threads on the object / heap machine (C20).

  A configuration is ONE pool — the machine of C04/C05, `Model/Pool.lean` + `Model/StrPool.lean` —
  whose object ids are partitioned by owner: the shared immutable pool, and one private pool per
  thread (`Part`).  A thread's program is a list of operations:

    * `const reads dests f` — a const member / free function: it reads the values of the objects
      `reads` (shared or the thread's own), hands back `f` of those values — a plain result, new
      strings/buffers stored in the fresh private objects `dests`, or an exception;  *what* `f` is
      is the business of C06–C14, here it is a parameter;
    * `mutate op` — any string-level operation of C04 (`SOp`): construction, copy, move, assignment,
      append, set, clear, destruction …; every object it writes is the thread's own, objects it
      only reads may be shared.

  A schedule is any list of thread ids: the scheduled thread executes its next operation with the
  pool machine's own step function (`SOp.run`) on the combined pool.  A step that breaks the
  ownership discipline, or names a dead / already constructed object, is refused (in C++ it would
  be undefined behaviour, which the property's hypothesis excludes) — so the machine is total and
  the theorems need no side conditions on programs.

  What this model cannot express, and therefore what no theorem about it says anything about:
  the interleaving is of WHOLE operations (that a data-race-free program behaves like such an
  interleaving is the C++ memory model's guarantee, not proved here); there is no state but the
  pool (the premise `statics_immutable`, re-checked against the source on every run); libc and
  libstdc++ are not modelled at all.
-/
import StVerif.Model.StrPool
import StVerif.Lemmas.PoolDefs

namespace StVerif.Sched
open StVerif StVerif.Pool StVerif.StrPool

abbrev Tid := Nat

/-- what an object reports: `(size(), data()[0 .. size))` -/
abbrev View := Nat × List Nat

inductive Owner where
  | shared
  | priv (t : Tid)
  deriving DecidableEq, Repr

/-- the ownership partition: every object id belongs to the shared pool or to exactly one thread -/
abbrev Part := Nat → Owner

def readable (part : Part) (t : Tid) (x : Nat) : Bool := part x == .shared || part x == .priv t
def writable (part : Part) (t : Tid) (x : Nat) : Bool := part x == .priv t

/-- what a const call hands back -/
inductive CRes where
  | values (vals : List (List Nat))     -- new strings / buffers holding these values
  | result (r : List Nat)               -- a plain result (index, order, hash, number, flag …)
  | throws (e : Exc)

inductive TOp where
  | const (reads dests : List Nat) (f : List (Option View) → CRes)
  | mutate (op : SOp)

/-- the objects an operation reads without writing them -/
def _root_.StVerif.StrPool.SOp.reads : SOp → List Nat
  | .ctorCopy _ s | .assignCopy _ s | .appendStr _ s => [s]
  | .setBufCopy _ _ | .ctorBufCopy _ _ => [bufSlot]
  | _ => []

/-- decidable form of `SOp.pre` (Lemmas/StrPoolOps.lean): constructor targets are dead user ids, every
    other named object is alive -/
def aliveB (p : Pool) (o : Nat) : Bool := (p.objs o).isSome
def deadB (p : Pool) (o : Nat) : Bool := !(p.objs o).isSome
def userB (x : Nat) : Bool := decide (x < 100)
def convOkB : Outcome (List Nat) → Bool
  | .ok _ => true
  | .throw .unicodeError => true
  | _ => false

def preB : SOp → Pool → Bool
  | .ctorText o _ _, p | .ctorDefault o, p => userB o && deadB p o
  | .ctorCopy o s, p | .ctorMove o s, p => userB o && userB s && deadB p o && aliveB p s
  | .dtor o, p | .clear o, p | .appendText o _ _, p | .appendChar o _, p | .setText o _ _, p => userB o && aliveB p o
  | .assignCopy o s, p | .assignMove o s, p | .appendStr o s, p => userB o && userB s && aliveB p o && aliveB p s
  | .setConv o c, p | .assignConv o c, p => userB o && aliveB p o && convOkB c
  | .bufCtor _, p => deadB p bufSlot
  | .setBufMove o _, p | .setBufCopy o _, p => userB o && decide (o ≠ bufSlot) && aliveB p o && aliveB p bufSlot
  | .ctorBufMove o _, p | .ctorBufCopy o _, p => userB o && decide (o ≠ bufSlot) && deadB p o && aliveB p bufSlot
  | .derive ds, p => (ds.map (·.1)).all (fun d => userB d && deadB p d) && decide (ds.map (·.1)).Nodup
  | .deriveThrow e, _ => decide (e ≠ .badAlloc)
  | .query, _ => true

/-- the string-level operation a thread operation amounts to in pool `p` -/
def TOp.toSOp (p : Pool) : TOp → SOp
  | .const reads dests f =>
    match f (reads.map (view p)) with
    | .values vals => .derive (dests.zip vals)
    | .result _ => .query
    | .throws e => .deriveThrow e
  | .mutate op => op

/-- what a const call returned (nothing for a mutating operation) -/
def TOp.result (p : Pool) : TOp → Option CRes
  | .const reads _ f => some (f (reads.map (view p)))
  | .mutate _ => none

/-- the ownership discipline of the property's hypothesis: everything written is the thread's own,
    everything read is shared or the thread's own -/
def TOp.owned (part : Part) (t : Tid) : TOp → Bool
  | .const reads dests _ => reads.all (readable part t) && dests.all (writable part t)
  | .mutate op => op.targets.all (writable part t) && op.reads.all (readable part t)

def TOp.admissible (part : Part) (t : Tid) (p : Pool) (top : TOp) : Bool :=
  top.owned part t && preB (top.toSOp p) p

inductive Ending where
  | completed
  | threw (e : Exc)
  | faulted (f : Fault)      -- a memory fault of the machine (proved unreachable)
  | refused                  -- the operation broke the ownership discipline / named a dead object
  deriving DecidableEq, Repr

/-- what a thread can observe of one of its own steps -/
structure Obs where
  ending : Ending
  result : Option CRes              -- what the const call handed back
  mine : Nat → Option View          -- the values of ALL the thread's own objects afterwards

def mineOf (part : Part) (t : Tid) (p : Pool) : Nat → Option View :=
  fun x => if part x = .priv t then view p x else none

/-- one operation of thread `t` on the combined pool -/
def execOp (part : Part) (t : Tid) (p : Pool) (top : TOp) : Pool × Obs :=
  if top.admissible part t p then
    match (top.toSOp p).run p with
    | .ok _ p' => (p', { ending := .completed, result := top.result p, mine := mineOf part t p' })
    | .throw e p' => (p', { ending := .threw e, result := top.result p, mine := mineOf part t p' })
    | .fault f p' => (p', { ending := .faulted f, result := top.result p, mine := mineOf part t p' })
  else (p, { ending := .refused, result := none, mine := mineOf part t p })

structure Config where
  pool : Pool
  progs : Tid → List TOp            -- what each thread still has to execute
  trace : Tid → List Obs            -- what each thread has observed so far (oldest first)

def upd {α : Type} (f : Tid → α) (t : Tid) (v : α) : Tid → α := fun x => if x = t then v else f x

/-- the scheduler picks thread `t`: it executes its next operation (a finished thread does nothing) -/
def stepThread (part : Part) (t : Tid) (c : Config) : Config :=
  match c.progs t with
  | [] => c
  | top :: rest =>
    let r := execOp part t c.pool top
    { pool := r.1, progs := upd c.progs t rest, trace := upd c.trace t (c.trace t ++ [r.2]) }

/-- a schedule is any sequence of thread ids -/
def run (part : Part) (sched : List Tid) (c : Config) : Config :=
  sched.foldl (fun c t => stepThread part t c) c

/-- thread `t` run alone: the same schedule with every other thread's turns removed -/
def alone (t : Tid) (sched : List Tid) : List Tid := sched.filter (· = t)

end StVerif.Sched
