/-
  Bit-operation normalisation: the models keep the C++ operators (`&&&`, `|||`, `<<<`, `>>>`);
  proofs rewrite them to `/`, `%`, `*`, `+` with these lemmas.  What recurs for every width of mask is
  stated once about variables: a mask test is a range test (`and_mask_eq_iff`), bits appended below a
  value add to it (`shl_or_and_low`).  At the end the arithmetic of what comes out: a value inside an
  aligned block of `k` has its offset as remainder (`mod_of_range`), one step `a * k + b` of a digit
  sum stays below the next power (`mul_add_lt`).  `omega` is slow on `%` and `/`, so only what is
  linear is left to it.
-/
namespace StVerif.Bits

theorem and_shl_mask (x m k : Nat) : x &&& (m <<< k) = ((x >>> k) &&& m) <<< k := by
  apply Nat.eq_of_testBit_eq
  intro i
  simp only [Nat.testBit_and, Nat.testBit_shiftLeft, Nat.testBit_shiftRight]
  by_cases h : k ≤ i
  · simp [h]
  · simp [h]

theorem or_mul_eq_add (a b i : Nat) (h : b < 2^i) : (a * 2^i) ||| b = a * 2^i + b := by
  rw [← Nat.shiftLeft_eq, ← Nat.shiftLeft_add_eq_or_of_lt h]

theorem and_mid_mask (x j k : Nat) : x &&& ((2^j - 1) * 2^k) = (x / 2^k % 2^j) * 2^k := by
  rw [← Nat.shiftLeft_eq, and_shl_mask, Nat.and_two_pow_sub_one_eq_mod, Nat.shiftLeft_eq, Nat.shiftRight_eq_div_pow]

theorem and_01 (x : Nat) : x &&& 0x01 = x % 2 := Nat.and_two_pow_sub_one_eq_mod x 1
theorem and_03 (x : Nat) : x &&& 0x03 = x % 4 := Nat.and_two_pow_sub_one_eq_mod x 2
theorem and_07 (x : Nat) : x &&& 0x07 = x % 8 := Nat.and_two_pow_sub_one_eq_mod x 3
theorem and_0F (x : Nat) : x &&& 0x0F = x % 16 := Nat.and_two_pow_sub_one_eq_mod x 4
theorem and_1F (x : Nat) : x &&& 0x1F = x % 32 := Nat.and_two_pow_sub_one_eq_mod x 5
theorem and_3F (x : Nat) : x &&& 0x3F = x % 64 := Nat.and_two_pow_sub_one_eq_mod x 6
theorem and_FF (x : Nat) : x &&& 0xFF = x % 256 := Nat.and_two_pow_sub_one_eq_mod x 8
theorem and_3FF (x : Nat) : x &&& 0x3FF = x % 1024 := Nat.and_two_pow_sub_one_eq_mod x 10
theorem and_F0 (x : Nat) : x &&& 0xF0 = (x / 16 % 16) * 16 := and_mid_mask x 4 4
theorem and_C0 (x : Nat) : x &&& 0xC0 = (x / 64 % 4) * 64 := and_mid_mask x 2 6
theorem and_E0 (x : Nat) : x &&& 0xE0 = (x / 32 % 8) * 32 := and_mid_mask x 3 5
theorem and_F8 (x : Nat) : x &&& 0xF8 = (x / 8 % 32) * 8 := and_mid_mask x 5 3
theorem and_80 (x : Nat) : x &&& 0x80 = (x / 128 % 2) * 128 := and_mid_mask x 1 7

/-- a mask test on the `j` bits above bit `k` is a range test, for a value of `j + k` bits -/
theorem and_mask_eq_iff {b : Nat} (j k v : Nat) (hb : b < 2 ^ j * 2 ^ k) :
    b &&& ((2 ^ j - 1) * 2 ^ k) = v * 2 ^ k ↔ v * 2 ^ k ≤ b ∧ b < (v + 1) * 2 ^ k := by
  have hk := Nat.two_pow_pos k
  -- both sides say that `b / 2 ^ k = v`
  rw [and_mid_mask, Nat.mod_eq_of_lt (Nat.div_lt_of_lt_mul (by rwa [Nat.mul_comm])), Nat.mul_right_cancel_iff hk,
    ← Nat.le_div_iff_mul_le hk, ← Nat.div_lt_iff_lt_mul hk, Nat.lt_succ_iff, Nat.le_antisymm_iff, and_comm]

theorem shl_or_shl (x y j k : Nat) : x <<< (j + k) ||| y <<< k = (x <<< j ||| y) <<< k := by
  rw [Nat.shiftLeft_or_distrib, ← Nat.shiftLeft_add]

theorem shl_or_and_low (a b k : Nat) : a <<< k ||| (b &&& (2 ^ k - 1)) = a * 2 ^ k + b % 2 ^ k := by
  rw [Nat.and_two_pow_sub_one_eq_mod, Nat.shiftLeft_eq]
  exact or_mul_eq_add _ _ k (Nat.mod_lt _ (Nat.two_pow_pos k))

theorem or_and_low (hi x k : Nat) (h : hi % 2^k = 0) : hi ||| (x &&& (2^k - 1)) = hi + x % 2^k := by
  rw [← Nat.div_mul_cancel (Nat.dvd_of_mod_eq_zero h), ← Nat.shiftLeft_eq, shl_or_and_low, Nat.shiftLeft_eq]

theorem and_two_pow_of_lt (v k : Nat) (h : v < 2^k) : v &&& 2^k = 0 := by
  have := and_mid_mask v 1 k
  rwa [Nat.pow_one, Nat.one_mul, Nat.div_eq_of_lt h, Nat.zero_mod, Nat.zero_mul] at this

theorem mod_of_range {b lo : Nat} (k : Nat) (hk : lo % k = 0) (h : lo ≤ b ∧ b < lo + k) : b % k = b - lo := by
  obtain ⟨d, rfl⟩ := Nat.exists_eq_add_of_le h.1
  rw [Nat.add_sub_cancel_left, Nat.add_mod, hk, Nat.zero_add, Nat.mod_mod, Nat.mod_eq_of_lt (Nat.lt_of_add_lt_add_left h.2)]

theorem range_add {lo x k : Nat} (h : x < k) : lo ≤ lo + x ∧ lo + x < lo + k :=
  ⟨Nat.le_add_right _ _, Nat.add_lt_add_left h _⟩

theorem mul_add_lt {a b n k : Nat} (ha : a < n) (hb : b < k) : a * k + b < n * k :=
  calc a * k + b < (a + 1) * k := by rw [Nat.succ_mul]; exact Nat.add_lt_add_left hb _
    _ ≤ n * k := Nat.mul_le_mul_right k ha

/-- the quotient of one Horner step (core has the remainder, `Nat.mul_add_mod_of_lt`) -/
theorem mul_add_div_of_lt {a b c : Nat} (h : c < b) : (a * b + c) / b = a :=
  Nat.div_eq_of_lt_le (Nat.le_add_right _ _) (mul_add_lt (Nat.lt_succ_self a) h)

/-- `Nat.div_add_mod'` for `c / b`, whose quotient by `a` is written `c / (b * a)` -/
theorem digit_split (c a b : Nat) : c / (b * a) * a + c / b % a = c / b := by
  rw [← Nat.div_div_eq_div_mul, Nat.div_add_mod']

end StVerif.Bits
