/-
  Bridge for the translated `validate_utf8` (include/st_utf_conv_priv.h as written by tools/gen_kernels.py):
  the translated loop, run over a whole source with enough fuel, returns the model's `validateUtf8`
  (0 = success, 1 = incomplete sequence, 3 = invalid sequence) -- in particular it never reads outside the source.
-/
import StVerif.Lemmas.KernelBridge
open StVerif.Cxx StVerif.Generated StVerif.Utf

namespace StVerif.KernelBridge

theorem validateUtf8_nil : validateUtf8 [] = 0 := rfl

/-- One iteration follows the function: lead-byte class, then the bounds test (which decides how much of the source the
    model sees); behind it both sides are the same cascade of tests on the continuation bytes, ending in the recursive
    call. -/
theorem validate_utf8_loop_eq (mem : List Nat) :
    ∀ fuel p, p ≤ mem.length → mem.length < fuel + p →
      Kernels.validate_utf8_loop1 mem 0 mem.length mem.length fuel p
        = .ok ((validateUtf8 (mem.drop p) : Nat) : Int) := by
  intro fuel
  induction fuel with
  | zero => intro p _ h; omega
  | succ n ih =>
    intro p hp hf
    have hf' : ∀ k, mem.length < n + (p + 1 + k) := fun k => by omega
    have push := @apply_ite Nat (M Int) fun x => .ok (x : Int)
    rw [Kernels.validate_utf8_loop1]
    by_cases hlt : p < mem.length
    · obtain ⟨b0, r0, d0⟩ := rd_lt mem p hlt
      rw [d0, validateUtf8.eq_def (b0 :: _), if_pos hlt]
      by_cases c1 : b0 < 128
      · simp only [↓bind_of_ok r0, c1, ↓reduceIte]
        exact ih _ hlt (hf' 0)
      by_cases c2 : b0 &&& 224 = 192
      · simp only [↓bind_of_ok r0, c1, c2, ↓reduceIte]
        by_cases s : p + 2 > mem.length
        · simp only [s, ↓reduceIte, List.drop_eq_nil_of_le (Nat.le_of_lt_succ s)]
          rfl
        obtain ⟨b1, r1, d1⟩ := rd_lt mem (p + 1) (Nat.le_of_not_gt s)
        simp only [s, ↓reduceIte, ↓bind_of_ok r1, d1, ih (p + 1 + 1) (Nat.le_of_not_gt s) (hf' 1), push]
        rfl
      by_cases c3 : b0 &&& 240 = 224
      · simp only [↓bind_of_ok r0, c1, c2, c3, ↓reduceIte]
        by_cases s : p + 3 > mem.length
        · simp only [s, ↓reduceIte]
          split
          -- the pattern `b1 :: b2 :: r` would put a unit at `p + 2`, past the end: drop one unit more on both sides of `h`
          · next h =>
            cases (congrArg (List.drop 1) h).symm.trans (List.drop_drop.trans (List.drop_eq_nil_of_le (Nat.le_of_lt_succ s)))
          · rfl
        have l := Nat.le_of_not_gt s
        obtain ⟨b1, r1, d1⟩ := rd_lt mem (p + 1) (Nat.lt_of_succ_lt l)
        obtain ⟨b2, r2, d2⟩ := rd_lt mem (p + 1 + 1) l
        simp only [s, ↓reduceIte, ↓bind_of_ok r1, ↓bind_of_ok r2, d1, d2, ih (p + 1 + 1 + 1) l (hf' 2), push]
        rfl
      by_cases c4 : b0 &&& 248 = 240
      · simp only [↓bind_of_ok r0, c1, c2, c3, c4, ↓reduceIte]
        by_cases s : p + 4 > mem.length
        · simp only [s, ↓reduceIte]
          split
          · next h =>
            cases (congrArg (List.drop 2) h).symm.trans (List.drop_drop.trans (List.drop_eq_nil_of_le (Nat.le_of_lt_succ s)))
          · rfl
        have l := Nat.le_of_not_gt s
        obtain ⟨b1, r1, d1⟩ := rd_lt mem (p + 1) (by omega)
        obtain ⟨b2, r2, d2⟩ := rd_lt mem (p + 1 + 1) (Nat.lt_of_succ_lt l)
        obtain ⟨b3, r3, d3⟩ := rd_lt mem (p + 1 + 1 + 1) l
        simp only [s, ↓reduceIte, ↓bind_of_ok r1, ↓bind_of_ok r2, ↓bind_of_ok r3, d1, d2, d3,
          ih (p + 1 + 1 + 1 + 1) l (hf' 3), push]
        rfl
      · simp only [↓bind_of_ok r0, c1, c2, c3, c4, ↓reduceIte]
        rfl
    · rw [if_neg hlt, List.drop_eq_nil_of_le (Nat.le_of_not_lt hlt)]
      rfl

theorem validate_utf8_eq (mem : List Nat) (fuel : Nat) (hf : mem.length < fuel) :
    Kernels.validate_utf8 mem fuel 0 mem.length = .ok ((validateUtf8 mem : Nat) : Int) := by
  unfold Kernels.validate_utf8
  simp only [Nat.zero_add]
  rw [validate_utf8_loop_eq mem fuel 0 (Nat.zero_le _) hf, List.drop_zero]

theorem validate_utf8_ok (mem : List Nat) (fuel : Nat) (hf : mem.length < fuel) :
    isOk (Kernels.validate_utf8 mem fuel 0 mem.length) = true := by
  rw [validate_utf8_eq mem fuel hf]; rfl

theorem validate_utf8_accepts_iff (mem : List Nat) (fuel : Nat) (hf : mem.length < fuel) :
    Kernels.validate_utf8 mem fuel 0 mem.length = .ok (0 : Int) ↔ validateUtf8 mem = 0 := by
  rw [validate_utf8_eq mem fuel hf]
  constructor
  · intro h
    have h' : ((validateUtf8 mem : Nat) : Int) = 0 := by injection h
    omega
  · intro h; rw [h]; rfl

end StVerif.KernelBridge
