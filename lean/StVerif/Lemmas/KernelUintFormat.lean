/-
  Bridge for the translated digit generator `ST::uint_formatter<uint_T>::format(value, radix, upper_case)`
  (include/st_format_numeric.h, as written by tools/gen_kernels.py for uint_T = unsigned long and
  unsigned int): for every radix an `int` ≥ 2 can hold and every value of the type, the translated
  loop produces exactly the characters of the model's `Num.uintFormat`, never divides by zero
  (`chkNZ`), never writes before the start of the member buffer (`pushFront`) and terminates within
  `digits` iterations.
-/
import StVerif.Generated.Kernels
import StVerif.Lemmas.Num
open StVerif.Cxx StVerif.Generated StVerif.Num StVerif.Spec.Digits StVerif.Lemmas.Digits

namespace StVerif.KernelBridge

/-- the `int` radix converted to the unsigned type of the value (`m` = 2^64 or 2^32) -/
theorem radix_to_uint (radix : Nat) (m : Int) (h : (radix : Int) < m) : ((radix : Int) % m).toNat = radix := by
  rw [Int.emod_eq_of_lt (by omega) h]
  rfl

/-- The digit loop of either instantiation, `while (value) body` (`hloop` is the loop's own equation, by `rfl`), puts the
    digits of the value in front of the text, one iteration per digit, as long as they fit the `cap` units of the buffer:
    the same closed form as the model's loop has (`Lemmas.Num.uintLoop_eq`). -/
theorem uint_format_loop_eq (radix : Nat) (upper : Bool) (hr : 2 ≤ radix) (cap : Nat)
    (loop body : Nat → Nat → List Nat → M (List Nat))
    (hloop : ∀ n v text, loop (n + 1) v text = if v ≠ 0 then body n v text else .ok text)
    (hbody : ∀ n v text, v ≠ 0 → text.length < cap →
      body n v text = loop n (v / radix) (digitCharCode upper (v % radix) :: text)) :
    ∀ fuel v text, (digits0 radix v).length + text.length ≤ cap → (digits0 radix v).length < fuel →
      loop fuel v text = .ok ((digits0 radix v).map (digitCharCode upper) ++ text) := by
  intro fuel
  induction fuel with
  | zero => intro v text _ h; omega
  | succ n ih =>
    intro v text hc hf
    by_cases hv : v = 0
    · subst hv; rw [hloop, if_neg (by omega)]; rfl
    · rw [digits0_step radix hr v hv] at hc hf ⊢
      rw [List.length_append, List.length_singleton] at hc hf
      rw [hloop, if_pos hv, hbody n v text hv (by omega), ih _ _ (by rw [List.length_cons]; omega) (by omega), List.map_append,
        List.append_assoc]
      rfl

theorem uint_format_64_eq (value radix : Nat) (upper : Bool) (hr : 2 ≤ radix) (hr' : radix < 2 ^ 31)
    (hv : value < 2 ^ 64) (fuel : Nat) (hf : 65 ≤ fuel) :
    ∃ f, uintFormat 64 value radix upper = .ok f ∧
      Kernels.uint_formatter_unsigned_long_format [] fuel value (radix : Int) (if upper then 1 else 0) = .ok f.chars ∧
      f.start + f.chars.length = 64 := by
  have hl := digits_length_le_of_lt_two_pow radix hr 64 value (by decide) hv
  refine ⟨_, Lemmas.Num.uintFormat_eq hr (by decide) hv rfl, ?_, by simp only [List.length_map]; omega⟩
  unfold Kernels.uint_formatter_unsigned_long_format
  by_cases h0 : value = 0
  · subst h0; rw [digits_zero]; rfl
  rw [← digits0_of_ne h0] at hl ⊢
  simp only [h0, ↓reduceIte]
  refine (uint_format_loop_eq radix upper hr 64 _ _ (fun _ _ _ => rfl) ?_ fuel value [] hl (by omega)).trans
    (by rw [List.append_nil])
  -- one iteration, for any `v`: what is known about `value` and `fuel` is not needed (and `omega` reads every hypothesis)
  clear hl hv hf h0
  intro n v text hv hlen
  have hmod : v % radix < 2 ^ 31 := Nat.lt_trans (Nat.mod_lt _ (by omega)) hr'
  simp only [radix_to_uint radix 18446744073709551616 (by omega), chkNZ, show radix ≠ 0 by omega, ↓reduceIte, ok_bind,
    Nat.mod_eq_of_lt (show v % radix < 4294967296 by omega), pushFront, hlen]
  unfold digitCharCode
  by_cases h10 : v % radix < 10
  · simp only [h10, ↓reduceIte]
    congr 2; omega
  · -- a letter: the two values are compared before the narrowing to `char`, which both sides apply last (`omega` is
    -- slower with the narrowing in the goal)
    simp only [h10, ↓reduceIte, flag_ne_zero]
    split <;> (congr 3; omega)

theorem uint_format_32_eq (value radix : Nat) (upper : Bool) (hr : 2 ≤ radix) (hr' : radix < 2 ^ 31)
    (hv : value < 2 ^ 32) (fuel : Nat) (hf : 33 ≤ fuel) :
    ∃ f, uintFormat 32 value radix upper = .ok f ∧
      Kernels.uint_formatter_unsigned_int_format [] fuel value (radix : Int) (if upper then 1 else 0) = .ok f.chars ∧
      f.start + f.chars.length = 32 := by
  have hl := digits_length_le_of_lt_two_pow radix hr 32 value (by decide) hv
  refine ⟨_, Lemmas.Num.uintFormat_eq hr (by decide) hv rfl, ?_, by simp only [List.length_map]; omega⟩
  unfold Kernels.uint_formatter_unsigned_int_format
  by_cases h0 : value = 0
  · subst h0; rw [digits_zero]; rfl
  rw [← digits0_of_ne h0] at hl ⊢
  simp only [h0, ↓reduceIte]
  refine (uint_format_loop_eq radix upper hr 32 _ _ (fun _ _ _ => rfl) ?_ fuel value [] hl (by omega)).trans
    (by rw [List.append_nil])
  clear hl hv hf h0
  intro n v text hv hlen
  have hmod : v % radix < 2 ^ 31 := Nat.lt_trans (Nat.mod_lt _ (by omega)) hr'
  simp only [radix_to_uint radix 4294967296 (by omega), chkNZ, show radix ≠ 0 by omega, ↓reduceIte, ok_bind, pushFront, hlen]
  unfold digitCharCode
  by_cases h10 : v % radix < 10
  · simp only [h10, ↓reduceIte]
    congr 2; omega
  · simp only [h10, ↓reduceIte, flag_ne_zero]
    split <;> (congr 3; omega)

end StVerif.KernelBridge
