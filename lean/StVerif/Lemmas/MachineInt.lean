/-
  Conversions between machine integer types (`wrapW`, `toSigned` of Base.lean) for a width variable:
  what `static_cast` does to a value the target type holds, and to a negative one; the round trips
  unsigned → signed → unsigned and back.  `wrap64`, `toI64`, `toI32` are the widths 64 and 32.
-/
import StVerif.Base

namespace StVerif

/-! `omega` does not relate `((2 ^ w : Nat) : Int)` to `(2 : Int) ^ w` by itself: where a bound crosses between `Nat`
and `Int` the powers are first rewritten to one form with `two_pow_cast`. -/

theorem two_pow_cast (w : Nat) : ((2 ^ w : Nat) : Int) = (2 : Int) ^ w := Int.natCast_pow 2 w

theorem two_pow_le {a b : Nat} (h : a ≤ b) : (2 : Int) ^ a ≤ 2 ^ b := by
  rw [← two_pow_cast, ← two_pow_cast]; exact Int.ofNat_le.mpr (Nat.pow_le_pow_right (by decide) h)

theorem wrapW_of_nonneg {w : Nat} {x : Int} (h0 : 0 ≤ x) (h1 : x < 2 ^ w) : wrapW w x = x.toNat := by
  unfold wrapW; rw [Int.emod_eq_of_lt h0 h1]

theorem wrapW_add_pow (w : Nat) (x : Int) : wrapW w (x + 2 ^ w) = wrapW w x := by
  unfold wrapW; rw [Int.add_emod_right]

theorem wrapW_of_neg {w : Nat} {x : Int} (h0 : x < 0) (h1 : -(2 ^ w : Int) ≤ x) : wrapW w x = (x + 2 ^ w).toNat := by
  rw [← wrapW_add_pow, wrapW_of_nonneg (by omega) (by omega)]

theorem wrapW_natCast_mod (w n : Nat) : wrapW w (n : Int) = n % 2 ^ w := by
  unfold wrapW
  rw [← two_pow_cast, ← Int.natCast_emod, Int.toNat_natCast]

theorem wrapW_natCast {w n : Nat} (h : n < 2 ^ w) : wrapW w (n : Int) = n := by
  rw [wrapW_natCast_mod, Nat.mod_eq_of_lt h]

/-- unsigned negation, as `strtoul` applies it to a magnitude that fits -/
theorem wrapW_neg_natCast {w m : Nat} (h : m ≤ 2 ^ w) : wrapW w (-(m : Int)) = (2 ^ w - m) % 2 ^ w := by
  rw [← wrapW_natCast_mod, Int.ofNat_sub h, two_pow_cast]
  unfold wrapW
  rw [Int.sub_eq_add_neg, Int.add_comm, Int.add_emod_right]

theorem wrapW_sub_wrapW (w : Nat) (a b : Int) : wrapW w (a - (wrapW w b : Int)) = wrapW w (a - b) := by
  unfold wrapW
  rw [Int.toNat_of_nonneg (Int.emod_nonneg b (Int.pow_ne_zero (by decide))), Int.sub_emod_emod]

/-- `value < 0 ? 0 - static_cast<uint_T>(value) : static_cast<uint_T>(value)` is `|value|` whenever that fits
    `uint_T`: for every value of the signed type, the most negative one included -/
theorem absValue_eq (w : Nat) (v : Int) (h : v.natAbs < 2 ^ w) :
    (if v < 0 then wrapW w (0 - (wrapW w v : Int)) else wrapW w v) = v.natAbs := by
  have hn : wrapW w (v.natAbs : Int) = v.natAbs := wrapW_natCast h
  split
  · rwa [Int.ofNat_natAbs_of_nonpos (Int.le_of_lt ‹_›), ← Int.zero_sub, ← wrapW_sub_wrapW] at hn
  · rwa [Int.natAbs_of_nonneg (Int.not_lt.mp ‹_›)] at hn

/-! `toSigned w n` is the member of `n`'s class modulo `2 ^ w` that lies in `[-2 ^ (w - 1), 2 ^ (w - 1))`. -/

theorem toSigned_emod (w n : Nat) : toSigned w n % 2 ^ w = (n : Int) % 2 ^ w := by
  unfold toSigned
  rw [Int.natCast_emod, two_pow_cast]
  split
  · exact Int.emod_emod _ _
  · rw [Int.sub_emod_right, Int.emod_emod]

theorem toSigned_range {w : Nat} (hw : 0 < w) (n : Nat) : -(2 ^ (w - 1) : Int) ≤ toSigned w n ∧ toSigned w n < 2 ^ (w - 1) := by
  have hr := Nat.mod_lt n (Nat.two_pow_pos w)
  unfold toSigned
  rw [← two_pow_cast, ← two_pow_cast, ← Nat.two_pow_pred_mul_two hw] at *
  omega

/-- two integers of `[-p, p)` that agree modulo `p + p` are equal: shifted by `p`, both are their own remainder -/
theorem eq_of_emod_eq {p a b : Int} (ha : -p ≤ a ∧ a < p) (hb : -p ≤ b ∧ b < p) (h : a % (p + p) = b % (p + p)) :
    a = b := by
  have h := Int.add_emod_eq_add_emod_right p h
  rwa [Int.emod_eq_of_lt (Int.add_nonneg_iff_neg_le.mpr ha.1) (Int.add_lt_add_right ha.2 p),
    Int.emod_eq_of_lt (Int.add_nonneg_iff_neg_le.mpr hb.1) (Int.add_lt_add_right hb.2 p), Int.add_left_inj] at h

theorem toSigned_eq {w : Nat} (hw : 0 < w) {n : Nat} {x : Int} (hlo : -(2 ^ (w - 1) : Int) ≤ x) (hhi : x < 2 ^ (w - 1))
    (h : (n : Int) % 2 ^ w = x % 2 ^ w) : toSigned w n = x := by
  rw [← toSigned_emod, ← two_pow_cast, ← Nat.two_pow_pred_add_two_pow_pred hw, Int.natCast_add, two_pow_cast] at h
  exact eq_of_emod_eq (toSigned_range hw n) ⟨hlo, hhi⟩ h

theorem toSigned_natCast {w : Nat} (hw : 0 < w) {n : Nat} (h : n < 2 ^ (w - 1)) : toSigned w n = n := by
  unfold toSigned
  rw [Nat.mod_eq_of_lt (Nat.lt_trans h (Nat.two_pow_pred_lt_two_pow hw)), if_pos h]

theorem wrapW_emod {w w' : Nat} (h : w ≤ w') (x : Int) : ((wrapW w' x : Nat) : Int) % 2 ^ w = x % 2 ^ w := by
  unfold wrapW
  rw [Int.toNat_of_nonneg (Int.emod_nonneg x (Int.pow_ne_zero (by decide))),
    Int.emod_emod_of_dvd x ⟨2 ^ (w' - w), by rw [← Int.pow_add, Nat.add_sub_cancel' h]⟩]

theorem toSigned_wrapW {w w' : Nat} (hw : 0 < w) (h : w ≤ w') {x : Int} (hlo : -(2 ^ (w - 1) : Int) ≤ x)
    (hhi : x < 2 ^ (w - 1)) : toSigned w (wrapW w' x) = x :=
  toSigned_eq hw hlo hhi (wrapW_emod h x)

theorem wrapW_toSigned {w n : Nat} (h : n < 2 ^ w) : wrapW w (toSigned w n) = n :=
  (congrArg Int.toNat (toSigned_emod w n)).trans (wrapW_natCast h)

theorem toSigned_inj {w x y : Nat} (hx : x < 2 ^ w) (hy : y < 2 ^ w) (h : toSigned w x = toSigned w y) :
    x = y := by
  rw [← wrapW_toSigned hx, h, wrapW_toSigned hy]

theorem wrap64_of_nonneg {x : Int} (h0 : 0 ≤ x) (h1 : x < 2 ^ 64) : wrap64 x = x.toNat :=
  wrapW_of_nonneg (w := 64) h0 h1

theorem wrap64_of_neg {x : Int} (h0 : x < 0) (h1 : -(2 ^ 64 : Int) ≤ x) : wrap64 x = (x + 2 ^ 64).toNat :=
  wrapW_of_neg (w := 64) h0 h1

theorem wrap64_nat (n : Nat) (h : n < 2 ^ 64) : wrap64 (n : Int) = n :=
  wrapW_natCast (w := 64) h

theorem wrap64_add_wrap64 (a b : Int) : wrap64 ((wrap64 a : Int) + b) = wrap64 (a + b) := by
  unfold wrap64
  rw [Int.toNat_of_nonneg (Int.emod_nonneg a (by decide)), Int.emod_add_emod]

theorem toI64_wrap64 (x : Int) (h0 : -(2 ^ 63 : Int) ≤ x) (h1 : x < 2 ^ 63) : toI64 (wrap64 x) = x :=
  toSigned_wrapW (w := 64) (by decide) (Nat.le_refl 64) h0 h1

theorem toI32_of_lt {x : Nat} (h : x < 2 ^ 31) : toI32 x = x :=
  toSigned_natCast (w := 32) (by decide) h

theorem toI32_range (x : Nat) : -(2 ^ 31 : Int) ≤ toI32 x ∧ toI32 x < 2 ^ 31 :=
  toSigned_range (w := 32) (by decide) x

theorem wrapW32_toI32 {v : Nat} (h : v < 2 ^ 32) : wrapW 32 (toI32 v) = v :=
  wrapW_toSigned (w := 32) h

end StVerif
