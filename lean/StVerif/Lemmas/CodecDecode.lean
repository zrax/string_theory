/-
  The decoders of `Model/Codec.lean` as pure functions of the text: one equation per loop (`hexDecodeLoop_eq`,
  `b64MainLoop_eq`), then the decoders themselves (`hexDecodeInto_some`, `hexDecodeAlloc_eq`; `b64DecodeInto_split`,
  `b64DecodeAlloc_split` on full groups ++ final group).  C14's round trips and C15's theorems are read off these.
-/
import StVerif.Lemmas.Codec
import StVerif.Lemmas.ListFacts

namespace StVerif.Lemmas.Codec
open StVerif.Codec StVerif.Bits
open StVerif.Spec

def hexOk (txt : List Nat) : Bool := txt.all fun c => decide (0 ≤ hexVal c)

def hexDecPairs : List Nat → List Nat
  | a :: b :: rest =>
      if 0 ≤ hexVal a ∧ 0 ≤ hexVal b then chr ((hexVal a).toNat <<< 4 ||| (hexVal b).toNat) :: hexDecPairs rest else []
  | _ => []

theorem hexOk_cons2 (a b : Nat) (rest : List Nat) :
    hexOk (a :: b :: rest) = true ↔ (0 ≤ hexVal a ∧ 0 ≤ hexVal b) ∧ hexOk rest = true := by
  simp only [hexOk, List.all_cons, Bool.and_eq_true, decide_eq_true_eq, and_assoc]

theorem hexOk_eq_all (txt : List Nat) (h : Bytes txt) : hexOk txt = txt.all Rfc4648.isHexDigit :=
  all_congr_mem fun c hc => (hexVal_spec (h c hc)).1

theorem hexValid_iff (txt : List Nat) (h : Bytes txt) :
    Rfc4648.hexValid txt = true ↔ txt.length % 2 = 0 ∧ hexOk txt = true := by
  rw [Rfc4648.hexValid, Bool.and_eq_true, beq_iff_eq, hexOk_eq_all txt h]

theorem hexDecPairs_length (txt : List Nat) :
    (hexDecPairs txt).length ≤ txt.length / 2 ∧ (hexOk txt = true → (hexDecPairs txt).length = txt.length / 2) := by
  fun_induction hexDecPairs txt with
  | case1 a b rest _ ih =>
    have e : (a :: b :: rest).length / 2 = rest.length / 2 + 1 := Nat.add_div_right _ (Nat.zero_lt_succ 1)
    rw [e, hexOk_cons2]
    exact ⟨Nat.succ_le_succ ih.1, fun hok => congrArg (· + 1) (ih.2 hok.2)⟩
  | case2 a b rest hn =>
    exact ⟨Nat.zero_le _, fun hok => absurd ((hexOk_cons2 a b rest).mp hok).1 hn⟩
  | case3 txt hne =>
    match txt, hne with
    | [], _ => exact ⟨Nat.le_refl _, fun _ => rfl⟩
    | [_], _ => exact ⟨Nat.zero_le _, fun _ => by simp⟩
    | a :: b :: rest, hne => exact absurd rfl (hne a b rest)

theorem hexDecodeLoop_eq (n : Nat) (txt acc : List Nat) (h : txt.length = 2 * n) :
    hexDecodeLoop n txt acc =
      { writes := acc.reverse ++ hexDecPairs txt,
        ret := if hexOk txt = true then ((acc.length + n : Nat) : Int) else -1 } := by
  induction n generalizing txt acc with
  | zero =>
    have : txt = [] := List.eq_nil_of_length_eq_zero h
    subst this
    simp only [hexDecodeLoop, hexDecPairs, hexOk, List.all_nil, List.append_nil, if_true, Nat.add_zero]
  | succ n ih =>
    match txt, h with
    | a :: b :: rest, h =>
      -- the code tests for failure (`< 0`, `∨`); read as the negation of acceptance it is `hexDecPairs`' own condition
      simp only [hexDecodeLoop, hexDecPairs, hexOk_cons2, ← Int.not_le, ← Decidable.not_and_iff_not_or_not, ite_not]
      by_cases hab : 0 ≤ hexVal a ∧ 0 ≤ hexVal b
      · rw [if_pos hab, if_pos hab, ih rest _ (Nat.add_right_cancel (m := 2) h)]
        simp only [hab, true_and, List.reverse_cons, List.append_assoc, List.singleton_append, List.length_cons,
          Nat.add_right_comm _ 1 n, Nat.add_assoc]
      · rw [if_neg hab, if_neg hab, if_neg (fun h' => hab h'.1), List.append_nil]

theorem hexDecodeInto_some (txt : List Nat) (cap : Nat) :
    hexDecodeInto txt (some cap) =
      if txt.length % 2 = 0 ∧ txt.length / 2 ≤ cap then
        { writes := hexDecPairs txt, ret := if hexOk txt = true then ((txt.length / 2 : Nat) : Int) else -1 }
      else { writes := [], ret := -1 } := by
  unfold hexDecodeInto
  by_cases hl : txt.length % 2 = 0
  · by_cases hc : txt.length / 2 ≤ cap
    · rw [if_neg (not_not_intro hl), if_pos ⟨hl, hc⟩]
      simp only
      rw [if_neg (Nat.not_lt.mpr hc), hexDecodeLoop_eq _ txt [] (by omega)]
      simp only [List.reverse_nil, List.nil_append, List.length_nil, Nat.zero_add]
    · rw [if_neg (not_not_intro hl), if_neg (fun h => hc h.2)]
      simp only
      rw [if_pos (Nat.lt_of_not_le hc)]
  · rw [if_pos hl, if_neg (fun h => hl h.1)]

/-- in particular the `oob` and assertion outcomes of the allocating decoder are unreachable -/
theorem hexDecodeAlloc_eq (txt : List Nat) :
    hexDecodeAlloc txt =
      if txt.length % 2 = 0 ∧ hexOk txt = true then .ok (hexDecPairs txt) else .throw .codecError := by
  unfold hexDecodeAlloc
  by_cases hl : txt.length % 2 = 0
  · rw [if_neg (not_not_intro hl)]
    simp only [hexDecodeInto_some, hl, Nat.le_refl, and_self, if_true, true_and]
    by_cases hok : hexOk txt = true
    · rw [if_pos hok, if_pos hok, if_neg Bool.false_ne_true, if_neg (Int.not_lt.mpr (Int.natCast_nonneg _)),
        if_neg (not_not_intro rfl)]
    · rw [if_neg hok, if_neg hok, if_neg Bool.false_ne_true, if_pos (by decide)]
  · rw [if_pos hl, if_neg (fun h => hl h.1)]

/-- the narrowing store keeps a byte assembled from a high part below `m` and `i` low bits -/
theorem chr_or {q r : Nat} (i m : Nat) (hq : q < m) (hr : r < 2 ^ i) (hm : m * 2 ^ i = 256) :
    chr (q * 2 ^ i ||| r) = q * 2 ^ i + r := by
  rw [or_mul_eq_add _ _ i hr, chr, Nat.mod_eq_of_lt]
  exact hm ▸ mul_add_lt hq hr

theorem dec_hex (hi lo : Nat) (hh : hi < 16) (hl : lo < 16) : chr (hi <<< 4 ||| lo) = hi * 16 + lo := by
  rw [Nat.shiftLeft_eq, chr_or 4 16 hh hl rfl]

/-- `f` re-spells the digits keeping their values (the identity; `upperHex`) -/
theorem hexDecPairs_encode_map (f : Nat → Nat) (hf : ∀ i, i < 16 → hexVal (f (hexChar i)) = (i : Int))
    (bs : List Nat) (h : Bytes bs) :
    hexOk ((hexEncode bs).map f) = true ∧ hexDecPairs ((hexEncode bs).map f) = bs := by
  induction bs with
  | nil => exact ⟨rfl, rfl⟩
  | cons b rest ih =>
    obtain ⟨hb, hr⟩ := List.forall_mem_cons.mp h
    obtain ⟨ihok, ihdec⟩ := ih hr
    have hhi : b / 16 < 16 := Nat.div_lt_of_lt_mul hb
    have hlo : b % 16 < 16 := Nat.mod_lt b (by decide)
    have hv : 0 ≤ hexVal (f (hexChar (b / 16))) ∧ 0 ≤ hexVal (f (hexChar (b % 16))) := by
      rw [hf _ hhi, hf _ hlo]
      exact ⟨Int.natCast_nonneg _, Int.natCast_nonneg _⟩
    rw [hexEncode_cons hb, List.map_cons, List.map_cons]
    refine ⟨(hexOk_cons2 _ _ _).mpr ⟨hv, ihok⟩, ?_⟩
    rw [hexDecPairs, if_pos hv, ihdec, hf _ hhi, hf _ hlo, Int.toNat_natCast, Int.toNat_natCast, dec_hex _ _ hhi hlo,
      Nat.div_add_mod']

def b64Ok (txt : List Nat) : Bool := txt.all fun c => decide (0 ≤ b64Val c)

def dec0 (c0 c1 : Nat) : Nat := chr (((b64Val c0).toNat <<< 2) ||| (((b64Val c1).toNat >>> 4) &&& 0x03))
def dec1 (c1 c2 : Nat) : Nat := chr ((((b64Val c1).toNat <<< 4) &&& 0xF0) ||| (((b64Val c2).toNat >>> 2) &&& 0x0F))
def dec2 (c2 c3 : Nat) : Nat := chr ((((b64Val c2).toNat <<< 6) &&& 0xC0) ||| ((b64Val c3).toNat &&& 0x3F))

def decBody : List Nat → List Nat
  | c0 :: c1 :: c2 :: c3 :: rest =>
      if 0 ≤ b64Val c0 ∧ 0 ≤ b64Val c1 ∧ 0 ≤ b64Val c2 ∧ 0 ≤ b64Val c3 then
        dec0 c0 c1 :: dec1 c1 c2 :: dec2 c2 c3 :: decBody rest
      else []
  | _ => []

theorem b64Ok_cons4 (c0 c1 c2 c3 : Nat) (rest : List Nat) :
    b64Ok (c0 :: c1 :: c2 :: c3 :: rest) = true ↔
      (0 ≤ b64Val c0 ∧ 0 ≤ b64Val c1 ∧ 0 ≤ b64Val c2 ∧ 0 ≤ b64Val c3) ∧ b64Ok rest = true := by
  simp only [b64Ok, List.all_cons, Bool.and_eq_true, decide_eq_true_eq, and_assoc]

theorem b64Ok_eq_all (txt : List Nat) (h : Bytes txt) : b64Ok txt = txt.all Rfc4648.isB64Char :=
  all_congr_mem fun c hc => (b64Val_spec (h c hc)).1

theorem decBody_length (m : Nat) (body : List Nat) (h : body.length = 4 * m) :
    (decBody body).length ≤ 3 * m ∧ (b64Ok body = true → (decBody body).length = 3 * m) := by
  induction m generalizing body with
  | zero =>
    have : body = [] := List.eq_nil_of_length_eq_zero h
    subst this
    exact ⟨Nat.le_refl _, fun _ => rfl⟩
  | succ m ih =>
    match body, h with
    | c0 :: c1 :: c2 :: c3 :: rest, h =>
      have ih := ih rest (Nat.add_right_cancel (m := 4) h)
      rw [decBody, b64Ok_cons4]
      split
      · exact ⟨Nat.add_le_add_right ih.1 3, fun hok => congrArg (· + 3) (ih.2 hok.2)⟩
      · exact ⟨Nat.zero_le _, fun hok => absurd hok.1 ‹_›⟩

/-- The two bounds say that `endp` (the decoded size) falls in the group after `body`: the loop stops exactly before it. -/
theorem b64MainLoop_eq (endp : Nat) (last : List Nat) (m : Nat) (body : List Nat) (outp : Nat) (acc : List Nat)
    (h : body.length = 4 * m) (h1 : outp + 3 * m < endp) (h2 : endp ≤ outp + 3 * m + 3) :
    b64MainLoop endp outp (body ++ last) acc =
      if b64Ok body = true then .inr ((decBody body).reverse ++ acc, last)
      else .inl { writes := acc.reverse ++ decBody body, ret := -1 } := by
  induction m generalizing body outp acc with
  | zero =>
    have : body = [] := List.eq_nil_of_length_eq_zero h
    subst this
    rw [List.nil_append, b64MainLoop.eq_def]
    split <;> rw [if_neg (Nat.not_lt.mpr h2)] <;> rfl
  | succ m ih =>
    match body, h with
    | c0 :: c1 :: c2 :: c3 :: rest, h =>
      rw [List.cons_append, List.cons_append, List.cons_append, List.cons_append, b64MainLoop, if_pos (by omega)]
      simp only [b64Ok_cons4, decBody, ← Int.not_le, ← Decidable.not_and_iff_not_or_not, ite_not]
      by_cases hg : 0 ≤ b64Val c0 ∧ 0 ≤ b64Val c1 ∧ 0 ≤ b64Val c2 ∧ 0 ≤ b64Val c3
      · rw [if_pos hg, if_pos hg, ih rest (outp + 3) _ (Nat.add_right_cancel (m := 4) h) (by omega) (by omega)]
        simp only [hg, true_and, dec0, dec1, dec2, List.reverse_cons, List.append_assoc, List.cons_append, List.nil_append]
      · rw [if_neg hg, if_neg hg, if_neg (fun h' => hg h'.1), List.append_nil]

/-- acceptance condition of the final group, as the code tests it -/
def finalOk (c0 c1 c2 c3 : Nat) : Bool :=
  decide (0 ≤ b64Val c0) && decide (0 ≤ b64Val c1) && (c2 == eqSign || decide (0 ≤ b64Val c2))
    && (c3 == eqSign || (decide (0 ≤ b64Val c2) && decide (0 ≤ b64Val c3)))

def finalBytes (c0 c1 c2 c3 : Nat) : List Nat :=
  dec0 c0 c1 :: ((if c2 ≠ eqSign then [dec1 c1 c2] else []) ++ (if c3 ≠ eqSign then [dec2 c2 c3] else []))

theorem finalBytes_length (c0 c1 c2 c3 : Nat) :
    (finalBytes c0 c1 c2 c3).length = 1 + (if c2 ≠ eqSign then 1 else 0) + (if c3 ≠ eqSign then 1 else 0) := by
  unfold finalBytes
  split <;> split <;> rfl

theorem finalBytes_length_le (c0 c1 c2 c3 : Nat) : (finalBytes c0 c1 c2 c3).length ≤ 3 := by
  rw [finalBytes_length]
  split <;> split <;> decide

theorem finalOk_iff (c0 c1 c2 c3 : Nat) :
    finalOk c0 c1 c2 c3 = true ↔
      (0 ≤ b64Val c0 ∧ 0 ≤ b64Val c1) ∧ (c2 = eqSign ∨ 0 ≤ b64Val c2) ∧ (c3 = eqSign ∨ 0 ≤ b64Val c2 ∧ 0 ≤ b64Val c3) := by
  simp only [finalOk, Bool.and_eq_true, Bool.or_eq_true, decide_eq_true_eq, beq_iff_eq, and_assoc]

theorem final_ok (acc : List Nat) (c0 c1 c2 c3 : Nat) (h : finalOk c0 c1 c2 c3 = true) :
    b64Final acc [c0, c1, c2, c3] =
      { writes := acc.reverse ++ finalBytes c0 c1 c2 c3, ret := ((acc.length + (finalBytes c0 c1 c2 c3).length : Nat) : Int) } := by
  obtain ⟨h01, h2, h3⟩ := (finalOk_iff c0 c1 c2 c3).mp h
  simp only [b64Final, ← Int.not_le, ← Decidable.not_and_iff_not_or_not, ← not_or, ite_not]
  rw [if_pos h01, if_pos h2, if_pos h3, finalBytes_length, finalBytes, dec0, dec1, dec2]
  by_cases e2 : c2 = eqSign <;> by_cases e3 : c3 = eqSign <;> simp [e2, e3, Nat.add_assoc]

theorem final_bad (acc : List Nat) (c0 c1 c2 c3 : Nat) (h : finalOk c0 c1 c2 c3 = false) :
    ∃ w, b64Final acc [c0, c1, c2, c3] = { writes := w, ret := -1 } ∧
      w.length ≤ acc.length + (finalBytes c0 c1 c2 c3).length := by
  simp only [b64Final, ← Int.not_le, ← Decidable.not_and_iff_not_or_not, ← not_or, ite_not]
  rw [finalBytes_length]
  by_cases h01 : 0 ≤ b64Val c0 ∧ 0 ≤ b64Val c1
  · by_cases h2 : c2 = eqSign ∨ 0 ≤ b64Val c2
    · by_cases h3 : c3 = eqSign ∨ 0 ≤ b64Val c2 ∧ 0 ≤ b64Val c3
      · rw [(finalOk_iff c0 c1 c2 c3).mpr ⟨h01, h2, h3⟩] at h
        exact Bool.noConfusion h
      · refine ⟨_, by rw [if_pos h01, if_pos h2, if_neg h3], ?_⟩
        rw [List.length_reverse, if_pos (fun e => h3 (.inl e))]
        split <;> simp only [List.length_cons] <;> omega
    · exact ⟨_, by rw [if_pos h01, if_neg h2], by rw [List.length_reverse, List.length_cons]; omega⟩
  · exact ⟨_, by rw [if_neg h01], by rw [List.length_reverse]; exact Nat.le_add_right _ _⟩

theorem b64DecodeSize_eq (txt : List Nat) :
    b64DecodeSize txt = if txt.length % 4 = 0 then ((Rfc4648.b64SizeQuery txt : Nat) : Int) else -1 := by
  simp only [b64DecodeSize, Rfc4648.b64SizeQuery, gt_iff_lt, ge_iff_le, Nat.lt_iff_add_one_le, Nat.zero_add, Nat.reduceAdd]
  rw [show eqSign = 61 from rfl]
  by_cases hl : txt.length % 4 = 0
  · rw [if_neg (not_not_intro hl), if_pos hl]
    split <;> split <;> omega
  · rw [if_pos hl, if_neg hl]

theorem b64_text_cases (txt : List Nat) :
    txt.length % 4 ≠ 0 ∨ txt = [] ∨ ∃ body c0 c1 c2 c3 m, txt = body ++ [c0, c1, c2, c3] ∧ body.length = 4 * m := by
  by_cases hl : txt.length % 4 = 0
  · match Nat.dvd_of_mod_eq_zero hl with
    | ⟨0, hk⟩ => exact .inr (.inl (List.eq_nil_of_length_eq_zero hk))
    | ⟨m + 1, hk⟩ =>
      have hd : (txt.drop (4 * m)).length = 4 := by rw [List.length_drop, hk, Nat.mul_succ, Nat.add_sub_cancel_left]
      match hlast : txt.drop (4 * m), hd with
      | [c0, c1, c2, c3], _ =>
        refine .inr (.inr ⟨txt.take (4 * m), c0, c1, c2, c3, m, ?_, ?_⟩)
        · rw [← hlast, List.take_append_drop]
        · rw [List.length_take, hk, Nat.mul_succ]
          exact Nat.min_eq_left (Nat.le_add_right _ _)
  · exact .inl hl

/-- the specification's two tests for a trailing `=`, on a text that ends in the group `c0 c1 c2 c3` -/
theorem pad_tests {txt body : List Nat} {c0 c1 c2 c3 : Nat} (h : txt = body ++ [c0, c1, c2, c3]) :
    (txt.length ≥ 1 ∧ txt.getD (txt.length - 1) 0 = 61 ↔ c3 = 61) ∧
    (txt.length ≥ 2 ∧ txt.getD (txt.length - 2) 0 = 61 ↔ c2 = 61) := by
  have e1 : txt.length - 1 = body.length + 3 := by simp [h]
  have e2 : txt.length - 2 = body.length + 2 := by simp [h]
  rw [e1, e2, h]
  constructor <;> simp [List.getD_eq_getElem?_getD]

theorem length_split {body : List Nat} {m : Nat} (c0 c1 c2 c3 : Nat) (hb : body.length = 4 * m) :
    (body ++ [c0, c1, c2, c3]).length = 4 * (m + 1) := by
  rw [List.length_append, hb]; rfl

theorem b64SizeQuery_split {body : List Nat} {m : Nat} (c0 c1 c2 c3 : Nat) (hb : body.length = 4 * m) :
    Rfc4648.b64SizeQuery (body ++ [c0, c1, c2, c3]) = 3 * m + (finalBytes c0 c1 c2 c3).length := by
  simp only [Rfc4648.b64SizeQuery, pad_tests rfl]
  rw [length_split c0 c1 c2 c3 hb, Nat.mul_div_cancel_left _ (Nat.zero_lt_succ 3), finalBytes_length,
    show eqSign = 61 from rfl, Nat.mul_comm]
  by_cases e3 : c3 = 61 <;> by_cases e2 : c2 = 61 <;>
    simp only [e3, e2, ne_eq, not_true_eq_false, not_false_eq_true, if_true, if_false] <;> rfl

theorem b64DecodeSize_split {body : List Nat} {m : Nat} (c0 c1 c2 c3 : Nat) (hb : body.length = 4 * m) :
    b64DecodeSize (body ++ [c0, c1, c2, c3]) = ((3 * m + (finalBytes c0 c1 c2 c3).length : Nat) : Int) := by
  rw [b64DecodeSize_eq, b64SizeQuery_split c0 c1 c2 c3 hb, length_split c0 c1 c2 c3 hb, Nat.mul_mod_right, if_pos rfl]

/-- What an unacceptable final group leaves stored is not named: only its length is used. -/
theorem b64DecodeInto_split {body : List Nat} {m : Nat} (c0 c1 c2 c3 cap : Nat) (hb : body.length = 4 * m) :
    ∃ w, b64DecodeInto (body ++ [c0, c1, c2, c3]) (some cap) =
        { writes := w,
          ret := if 3 * m + (finalBytes c0 c1 c2 c3).length ≤ cap ∧ b64Ok body = true ∧ finalOk c0 c1 c2 c3 = true
            then ((3 * m + (finalBytes c0 c1 c2 c3).length : Nat) : Int) else -1 } ∧
      w.length ≤ cap ∧
      (3 * m + (finalBytes c0 c1 c2 c3).length ≤ cap → b64Ok body = true → finalOk c0 c1 c2 c3 = true →
        w = decBody body ++ finalBytes c0 c1 c2 c3) := by
  have hl : 0 < (finalBytes c0 c1 c2 c3).length := Nat.zero_lt_succ _
  have hl3 := finalBytes_length_le c0 c1 c2 c3
  have hd := (decBody_length m body hb).1
  simp only [b64DecodeInto, b64DecodeSize_split c0 c1 c2 c3 hb, Int.toNat_natCast]
  by_cases hc : 3 * m + (finalBytes c0 c1 c2 c3).length ≤ cap
  · rw [if_neg (by omega), if_neg (by omega), b64MainLoop_eq _ [c0, c1, c2, c3] m body 0 [] hb (by omega) (by omega)]
    by_cases hok : b64Ok body = true
    · rw [if_pos hok, List.append_nil]
      dsimp only
      by_cases hfin : finalOk c0 c1 c2 c3 = true
      · rw [final_ok _ c0 c1 c2 c3 hfin, if_pos ⟨hc, hok, hfin⟩, List.reverse_reverse, List.length_reverse,
          (decBody_length m body hb).2 hok]
        exact ⟨_, rfl, by rw [List.length_append, (decBody_length m body hb).2 hok]; exact hc, fun _ _ _ => rfl⟩
      · obtain ⟨w, hw, hwl⟩ := final_bad (decBody body).reverse c0 c1 c2 c3 (by simpa using hfin)
        rw [List.length_reverse] at hwl
        rw [hw, if_neg (fun h => hfin h.2.2)]
        exact ⟨w, rfl, Nat.le_trans hwl (Nat.le_trans (Nat.add_le_add_right hd _) hc), fun _ _ h => absurd h hfin⟩
    · rw [if_neg hok, if_neg (fun h => hok h.2.1), List.reverse_nil, List.nil_append]
      exact ⟨_, rfl, Nat.le_trans hd (Nat.le_trans (Nat.le_add_right _ _) hc), fun _ h => absurd h hok⟩
  · rw [if_pos (.inr (Nat.lt_of_not_le hc)), if_neg (fun h => hc h.1)]
    exact ⟨[], rfl, Nat.zero_le _, fun h => absurd h hc⟩

theorem b64DecodeAlloc_split {body : List Nat} {m : Nat} (c0 c1 c2 c3 : Nat) (hb : body.length = 4 * m) :
    b64DecodeAlloc (body ++ [c0, c1, c2, c3]) =
      if b64Ok body = true ∧ finalOk c0 c1 c2 c3 = true then .ok (decBody body ++ finalBytes c0 c1 c2 c3)
      else .throw .codecError := by
  obtain ⟨w, hw, _, hdec⟩ := b64DecodeInto_split c0 c1 c2 c3 (3 * m + (finalBytes c0 c1 c2 c3).length) hb
  simp only [b64DecodeAlloc, b64DecodeSize_split c0 c1 c2 c3 hb, Int.toNat_natCast, hw, Nat.le_refl, true_and]
  rw [if_neg (Int.not_lt.mpr (Int.natCast_nonneg _))]
  by_cases hok : b64Ok body = true ∧ finalOk c0 c1 c2 c3 = true
  · rw [if_pos hok, if_pos hok, hdec (Nat.le_refl _) hok.1 hok.2, if_neg Bool.false_ne_true,
      if_neg (Int.not_lt.mpr (Int.natCast_nonneg _)), if_neg (not_not_intro rfl)]
  · rw [if_neg hok, if_neg hok, if_neg Bool.false_ne_true, if_pos (by decide)]

theorem b64Valid_length {txt : List Nat} (hv : Rfc4648.b64Valid txt = true) : txt.length % 4 = 0 := by
  simp only [Rfc4648.b64Valid, Bool.and_eq_true, beq_iff_eq] at hv
  exact hv.1

theorem b64Valid_split {body : List Nat} {m : Nat} (c0 c1 c2 c3 : Nat) (hb : body.length = 4 * m) :
    Rfc4648.b64Valid (body ++ [c0, c1, c2, c3]) =
      (body.all Rfc4648.isB64Char &&
        ([c0, c1, c2, c3].take (4 - if c3 = 61 then (if c2 = 61 then 2 else 1) else 0)).all Rfc4648.isB64Char) := by
  have hp : (if c3 = 61 then (if c2 = 61 then 2 else 1) else 0) ≤ 4 := by
    split
    split
    all_goals decide
  simp only [Rfc4648.b64Valid, Rfc4648.padCount, pad_tests rfl]
  rw [length_split c0 c1 c2 c3 hb, Nat.mul_mod_right, beq_self_eq_true, Bool.true_and, Nat.mul_succ, ← hb, ← List.all_append,
    ← List.take_length_add_append, Nat.add_sub_assoc hp]

theorem accept_iff_valid {body : List Nat} {c0 c1 c2 c3 m : Nat} (hb : body.length = 4 * m)
    (hbytes : Bytes (body ++ [c0, c1, c2, c3])) :
    (b64Ok body && finalOk c0 c1 c2 c3) = Rfc4648.b64Valid (body ++ [c0, c1, c2, c3]) := by
  have ok : ∀ c ∈ body ++ [c0, c1, c2, c3], decide (0 ≤ b64Val c) = Rfc4648.isB64Char c :=
    fun c hc => (b64Val_spec (hbytes c hc)).1
  rw [b64Valid_split c0 c1 c2 c3 hb, b64Ok_eq_all body fun c hc => hbytes c (List.mem_append_left _ hc),
    finalOk, ok c0 (by simp), ok c1 (by simp), ok c2 (by simp), ok c3 (by simp), show eqSign = 61 from rfl]
  by_cases e3 : c3 = 61 <;> by_cases e2 : c2 = 61 <;>
    simp [e3, e2, Bool.beq_eq_decide_eq, isB64Char_eqSign, Bool.and_assoc]

/-- On valid text the size query is the RFC length: they differ only on a `=` in the last but one place that is
    not followed by `=`, which is then no padding but an invalid character. -/
theorem b64SizeQuery_eq_decodedLength (txt : List Nat) (hv : Rfc4648.b64Valid txt = true) :
    Rfc4648.b64SizeQuery txt = Rfc4648.b64DecodedLength txt := by
  simp only [Rfc4648.b64Valid, Bool.and_eq_true, List.all_eq_true] at hv
  have hall := hv.2
  simp only [Rfc4648.b64SizeQuery, Rfc4648.b64DecodedLength, Rfc4648.padCount] at hall ⊢
  by_cases h1 : txt.length ≥ 1 ∧ txt.getD (txt.length - 1) 0 = 61
  · rw [if_pos h1, if_pos h1]
    split <;> rfl
  · rw [if_neg h1, Nat.sub_zero, List.take_length] at hall
    have h2 : ¬ (txt.length ≥ 2 ∧ txt.getD (txt.length - 2) 0 = 61) := by
      intro ⟨hl, he⟩
      have hm : txt.getD (txt.length - 2) 0 ∈ txt := by
        rw [List.getD_eq_getElem?_getD, List.getElem?_eq_getElem (by omega), Option.getD_some]
        exact List.getElem_mem _
      have := hall _ hm
      rw [he, isB64Char_eqSign] at this
      cases this
    rw [if_neg h1, if_neg h1, if_neg h2]
    rfl

theorem b64DecodedLength_split {body : List Nat} {c0 c1 c2 c3 m : Nat} (hb : body.length = 4 * m)
    (hv : Rfc4648.b64Valid (body ++ [c0, c1, c2, c3]) = true) :
    Rfc4648.b64DecodedLength (body ++ [c0, c1, c2, c3]) = 3 * m + (finalBytes c0 c1 c2 c3).length := by
  rw [← b64SizeQuery_eq_decodedLength _ hv, b64SizeQuery_split c0 c1 c2 c3 hb]

theorem dec_o0 (n0 n1 : Nat) (h0 : n0 < 64) : chr ((n0 <<< 2) ||| ((n1 >>> 4) &&& 0x03)) = n0 * 4 + n1 / 16 % 4 := by
  rw [and_03, Nat.shiftLeft_eq, Nat.shiftRight_eq_div_pow, chr_or 2 64 h0 (Nat.mod_lt _ (by decide)) rfl]
theorem dec_o1 (n1 n2 : Nat) : chr (((n1 <<< 4) &&& 0xF0) ||| ((n2 >>> 2) &&& 0x0F)) = n1 % 16 * 16 + n2 / 4 % 16 := by
  rw [and_F0, and_0F, Nat.shiftLeft_eq, Nat.shiftRight_eq_div_pow, Nat.mul_div_cancel _ (by decide),
    chr_or 4 16 (Nat.mod_lt _ (by decide)) (Nat.mod_lt _ (by decide)) rfl]
theorem dec_o2 (n2 n3 : Nat) : chr (((n2 <<< 6) &&& 0xC0) ||| (n3 &&& 0x3F)) = n2 % 4 * 64 + n3 % 64 := by
  rw [and_C0, and_3F, Nat.shiftLeft_eq, Nat.mul_div_cancel _ (by decide),
    chr_or 6 4 (Nat.mod_lt _ (by decide)) (Nat.mod_lt _ (by decide)) rfl]

theorem b64Char_ok {s : Nat} (h : s < 64) : 0 ≤ b64Val (b64Char s) := by
  rw [b64Val_b64Char h]; omega

/-- with `c = 0`, or `b = c = 0`, this is also the 2-byte and the 1-byte tail -/
theorem dec_group {a b c : Nat} (ha : a < 256) (hb : b < 256) (hc : c < 256) :
    dec0 (b64Char (sextet0 a)) (b64Char (sextet1 a b)) = a ∧
    dec1 (b64Char (sextet1 a b)) (b64Char (sextet2 b c)) = b ∧
    dec2 (b64Char (sextet2 b c)) (b64Char (sextet3 c)) = c := by
  have hb' : b / 16 < 16 := Nat.div_lt_of_lt_mul hb
  have hc' : c / 64 < 4 := Nat.div_lt_of_lt_mul hc
  rw [dec0, dec1, dec2, b64Val_b64Char (sextet0_lt ha), b64Val_b64Char (sextet1_lt a hb),
    b64Val_b64Char (sextet2_lt b hc), b64Val_b64Char (sextet3_lt c)]
  simp only [Int.toNat_natCast, dec_o0 _ _ (sextet0_lt ha), dec_o1, dec_o2]
  unfold sextet0 sextet1 sextet2 sextet3
  simp only [mul_add_div_of_lt hb', Nat.mul_add_mod_of_lt hb', mul_add_div_of_lt hc', Nat.mul_add_mod_of_lt hc',
    Nat.mod_mod, Nat.div_add_mod', and_self]

theorem b64Encode_shape (bs : List Nat) (h : Bytes bs) (hne : bs ≠ []) :
    ∃ body c0 c1 c2 c3 m, b64Encode bs = body ++ [c0, c1, c2, c3] ∧ body.length = 4 * m ∧ b64Ok body = true ∧
      finalOk c0 c1 c2 c3 = true ∧ decBody body ++ finalBytes c0 c1 c2 c3 = bs := by
  induction bs using b64Encode.induct with
  | case1 a b c rest ih =>
    simp only [Bytes_cons] at h
    obtain ⟨ha, hb, hc, hr⟩ := h
    have k0 := b64Char_ok (sextet0_lt ha)
    have k1 := b64Char_ok (sextet1_lt a hb)
    have k2 := b64Char_ok (sextet2_lt b hc)
    have k3 := b64Char_ok (sextet3_lt c)
    obtain ⟨d0, d1, d2⟩ := dec_group ha hb hc
    rw [b64Encode_cons3 a hb hc]
    by_cases hrest : rest = []
    · subst hrest
      refine ⟨[], _, _, _, _, 0, rfl, rfl, rfl, (finalOk_iff _ _ _ _).mpr ⟨⟨k0, k1⟩, Or.inr k2, Or.inr ⟨k2, k3⟩⟩, ?_⟩
      rw [finalBytes, if_pos (b64Char_ne_eq (sextet2_lt b hc)), if_pos (b64Char_ne_eq (sextet3_lt c)), d0, d1, d2]
      rfl
    · obtain ⟨body, c0, c1, c2, c3, m, he, hbl, hok, hfin, hdec⟩ := ih hr hrest
      refine ⟨_ :: _ :: _ :: _ :: body, c0, c1, c2, c3, m + 1, by rw [he]; rfl, ?_,
        (b64Ok_cons4 _ _ _ _ _).mpr ⟨⟨k0, k1, k2, k3⟩, hok⟩, hfin, ?_⟩
      · exact congrArg (· + 4) hbl
      · rw [decBody, if_pos ⟨k0, k1, k2, k3⟩, d0, d1, d2, ← hdec]; rfl
  | case2 a b =>
    simp only [Bytes_cons] at h
    obtain ⟨ha, hb, _⟩ := h
    have h0 : 0 < 256 := by decide
    obtain ⟨d0, d1, _⟩ := dec_group ha hb h0
    rw [b64Encode_two a hb]
    refine ⟨[], _, _, _, _, 0, rfl, rfl, rfl, (finalOk_iff _ _ _ _).mpr
      ⟨⟨b64Char_ok (sextet0_lt ha), b64Char_ok (sextet1_lt a hb)⟩, Or.inr (b64Char_ok (sextet2_lt b h0)), Or.inl rfl⟩, ?_⟩
    rw [finalBytes, if_pos (b64Char_ne_eq (sextet2_lt b h0)), if_neg (fun h => h rfl), d0, d1]
    rfl
  | case3 a =>
    have ha : a < 256 := h a List.mem_cons_self
    have h0 : 0 < 256 := by decide
    obtain ⟨d0, _, _⟩ := dec_group ha h0 h0
    rw [b64Encode_one a]
    refine ⟨[], _, _, _, _, 0, rfl, rfl, rfl, (finalOk_iff _ _ _ _).mpr
      ⟨⟨b64Char_ok (sextet0_lt ha), b64Char_ok (sextet1_lt a h0)⟩, Or.inl rfl, Or.inl rfl⟩, ?_⟩
    rw [finalBytes, if_neg (fun h => h rfl), if_neg (fun h => h rfl), d0]
    rfl
  | case4 => exact absurd rfl hne

end StVerif.Lemmas.Codec
