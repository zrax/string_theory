/-
  `Outcome` as a monad: the laws of `bind`, and when `bind` / `map` return a value.  Then the
  outcome logic: `Sat P E A x` says that the outcome `x` is a value in `P`, an exception in `E` or an
  assertion in `A` — and none of `ub`, `oob`, `stuck`.  It goes through `bind`, so that what a call
  can return is read off what its parts can return.
-/
import StVerif.Base

namespace StVerif.Outcome
variable {α β γ : Type}

theorem pure_eq_ok (a : α) : (pure a : Outcome α) = ok a := rfl

theorem ok_bind (a : α) (f : α → Outcome β) : (ok a).bind f = f a := rfl

theorem ok_bind' (a : α) (f : α → Outcome β) : (ok a >>= f) = f a := rfl

theorem bind_ok (o : Outcome α) : o.bind ok = o := by
  cases o <;> rfl

theorem bind_assoc (o : Outcome α) (f : α → Outcome β) (g : β → Outcome γ) :
    (o.bind f).bind g = o.bind fun a => (f a).bind g := by
  cases o <;> rfl

theorem bind_eq_ok {x : Outcome α} {f : α → Outcome β} {b : β} : x.bind f = ok b ↔ ∃ a, x = ok a ∧ f a = ok b := by
  cases x <;> simp [Outcome.bind]

theorem map_eq_ok {x : Outcome α} {f : α → β} {b : β} : x.map f = ok b ↔ ∃ a, x = ok a ∧ f a = b := by
  cases x <;> simp [Outcome.map]

/-- a value that came back past an assertion is the value of what stands behind the assertion -/
theorem of_ite_assert {c : Prop} [Decidable c] {w : String} {x : Outcome α} {a : α}
    (h : (if c then assertFail w else x) = ok a) : x = ok a := by
  split at h
  · cases h
  · exact h

theorem map_bind_congr {α' β' : Type} {x : Outcome α} {F : α → Outcome β} {g : α → α'} {g' : β → β'}
    {G : α' → Outcome β'} (h : ∀ a, (F a).map g' = G (g a)) : (x.bind F).map g' = (x.map g).bind G := by
  cases x with
  | ok a => exact h a
  | _ => rfl

end StVerif.Outcome

namespace StVerif.Lemmas.Fmt

def Sat (P : α → Prop) (E : Exc → Prop) (A : String → Prop) : Outcome α → Prop
  | .ok a => P a
  | .throw e => E e
  | .assertFail w => A w
  | _ => False

section
variable {α β : Type} {P P' : α → Prop} {Q : β → Prop} {E E' : Exc → Prop} {A A' : String → Prop} {x : Outcome α}

theorem Sat.bind {f : α → Outcome β} (hx : Sat P E A x) (hf : ∀ a, P a → Sat Q E A (f a)) : Sat Q E A (x.bind f) := by
  cases x with
  | ok a => exact hf a hx
  | _ => exact hx

theorem Sat.bind_congr {f g : α → Outcome β} (hx : Sat P E A x) (h : ∀ a, P a → f a = g a) : x.bind f = x.bind g := by
  cases x with
  | ok a => exact h a hx
  | _ => rfl

theorem Sat.mono (hx : Sat P E A x) (hP : ∀ a, P a → P' a) (hE : ∀ e, E e → E' e) (hA : ∀ w, A w → A' w) : Sat P' E' A' x := by
  cases x with
  | ok a => exact hP a hx
  | throw e => exact hE e hx
  | assertFail w => exact hA w hx
  | _ => exact hx

theorem Sat.of_ok {a : α} (hx : Sat P E A x) (h : x = .ok a) : P a := by
  rw [h] at hx; exact hx

theorem Sat.of_throw {e : Exc} (hx : Sat P E A x) (h : x = .throw e) : E e := by
  rw [h] at hx; exact hx

theorem Sat.of_assert {w : String} (hx : Sat P E A x) (h : x = .assertFail w) : A w := by
  rw [h] at hx; exact hx

theorem Sat.trace (hx : Sat P E A x) :
    Sat (fun a => x = .ok a ∧ P a) (fun e => x = .throw e ∧ E e) (fun w => x = .assertFail w ∧ A w) x := by
  cases x with
  | ok a => exact ⟨rfl, hx⟩
  | throw e => exact ⟨rfl, hx⟩
  | assertFail w => exact ⟨rfl, hx⟩
  | _ => exact hx

theorem Sat.exists_ok (hx : Sat P (fun _ => False) (fun _ => False) x) : ∃ a, x = .ok a ∧ P a := by
  cases x with
  | ok a => exact ⟨a, rfl, hx⟩
  | _ => exact hx.elim

theorem Sat.ne_oob (hx : Sat P E A x) : x ≠ .oob := by
  intro h; rw [h] at hx; exact hx

theorem Sat.ne_stuck (hx : Sat P E A x) : x ≠ .stuck := by
  intro h; rw [h] at hx; exact hx

theorem Sat.ne_ub (hx : Sat P E A x) (w : String) : x ≠ .ub w := by
  intro h; rw [h] at hx; exact hx

end

end StVerif.Lemmas.Fmt
