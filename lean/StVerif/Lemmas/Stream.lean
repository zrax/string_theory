/-
  The stream machine of C16: the doubling loop, list facts about `overwrite`, evaluation of the machine's
  primitives, what a stream shows (`abs`, `content`), and what the invariant says of one live stream — in particular
  the machine's accesses to its storage (`Inv.readUnits`, `Inv.deleteIfHeap`), stated once for both storage modes.
-/
import StVerif.Lemmas.StreamDefs
import StVerif.Lemmas.ListFacts

namespace StVerif.Stream
open StVerif.Generated StVerif.Spec

variable {p : Pool} {o k : Nat} {blk : List Nat}

theorem cap_pos : 0 < stackStringSize := by decide

/-- the doubling loop of `expand_buffer` finds a capacity within its fuel when the start capacity is positive (each round
    adds at least 1, so `need - big + 1` rounds suffice): what rules out the outcome `stuck` -/
theorem growLoop_spec (need : Nat) : ∀ (fuel big : Nat), 0 < big → 0 < fuel → need < big + fuel →
    ∃ b, growLoop need fuel big = some b ∧ need ≤ b ∧ big < b := by
  intro fuel
  induction fuel with
  | zero => intro _ _ hf; cases hf
  | succ f ih =>
    intro big hb _ h
    have hbb : big < big * 2 := by omega
    simp only [growLoop]
    split
    · obtain ⟨b, h1, h2, h3⟩ := ih (big * 2) (Nat.lt_trans hb hbb) (by omega) (by omega)
      exact ⟨b, h1, h2, Nat.lt_trans hbb h3⟩
    · exact ⟨big * 2, rfl, Nat.le_of_not_lt ‹_›, hbb⟩

/-- the result is the least `big * 2^(j+1)` that holds `need` (the capacity the C++ loop computes) -/
theorem growLoop_least (need : Nat) : ∀ (fuel big b : Nat), growLoop need fuel big = some b →
    ∃ j : Nat, b = big * 2 ^ (j + 1) ∧ need ≤ b ∧ (j = 0 ∨ big * 2 ^ j < need) := by
  intro fuel
  induction fuel with
  | zero => intro _ _ h; cases h
  | succ f ih =>
    intro big b h
    simp only [growLoop] at h
    split at h
    · rename_i hlt
      obtain ⟨j, h1, h2, h3⟩ := ih _ _ h
      have e : ∀ n : Nat, big * 2 * 2 ^ n = big * 2 ^ (n + 1) := fun n => by rw [Nat.pow_succ, Nat.mul_assoc, Nat.mul_comm 2]
      refine ⟨j + 1, by rw [h1, e], h2, Or.inr ?_⟩
      rcases h3 with h3 | h3
      · rw [h3, Nat.pow_one]; exact hlt
      · rw [← e]; exact h3
    · rename_i hge
      cases h
      exact ⟨0, by rw [Nat.pow_one], Nat.le_of_not_lt hge, Or.inl rfl⟩

theorem growLoop_zero (need : Nat) (h : 0 < need) : ∀ fuel, growLoop need fuel 0 = none := by
  intro fuel; induction fuel with
  | zero => rfl
  | succ f ih => simp only [growLoop]; simp [h, ih]

theorem overwrite_length (blk us : List Nat) (at_ : Nat) (h : at_ + us.length ≤ blk.length) :
    (overwrite blk at_ us).length = blk.length :=
  length_splice rfl h

theorem overwrite_zero_take (blk old : List Nat) (n : Nat) (hn : n ≤ old.length) :
    (overwrite blk 0 old).take n = old.take n := by
  simp [overwrite, List.take_append, Nat.sub_eq_zero_of_le hn]

theorem overwrite_take_end (blk us : List Nat) (at_ : Nat) (h : at_ ≤ blk.length) :
    (overwrite blk at_ us).take (at_ + us.length) = blk.take at_ ++ us := by
  rw [overwrite, List.take_left' (by rw [List.length_append, List.length_take_of_le h])]

def Pool.setO (p : Pool) (o : Nat) (s : Option Obj) : Pool := { p with objs := fun x => if x = o then s else p.objs x }
def Pool.setH (p : Pool) (k : Nat) (b : Option (List Nat)) : Pool := { p with heap := fun x => if x = k then b else p.heap x }
def Pool.bump (p : Pool) : Pool := { p with next := p.next + 1, allocs := p.allocs + 1 }

@[simp] theorem setO_objs (p : Pool) (o : Nat) (s : Option Obj) (x : Nat) : (p.setO o s).objs x = if x = o then s else p.objs x := rfl
@[simp] theorem setO_heap (p : Pool) (o : Nat) (s : Option Obj) : (p.setO o s).heap = p.heap := rfl
@[simp] theorem setO_next (p : Pool) (o : Nat) (s : Option Obj) : (p.setO o s).next = p.next := rfl
@[simp] theorem setO_failAt (p : Pool) (o : Nat) (s : Option Obj) : (p.setO o s).failAt = p.failAt := rfl
@[simp] theorem setO_allocs (p : Pool) (o : Nat) (s : Option Obj) : (p.setO o s).allocs = p.allocs := rfl
@[simp] theorem setH_heap (p : Pool) (k : Nat) (b : Option (List Nat)) (x : Nat) : (p.setH k b).heap x = if x = k then b else p.heap x := rfl
@[simp] theorem setH_objs (p : Pool) (k : Nat) (b : Option (List Nat)) : (p.setH k b).objs = p.objs := rfl
@[simp] theorem setH_next (p : Pool) (k : Nat) (b : Option (List Nat)) : (p.setH k b).next = p.next := rfl
@[simp] theorem setH_failAt (p : Pool) (k : Nat) (b : Option (List Nat)) : (p.setH k b).failAt = p.failAt := rfl
@[simp] theorem setH_allocs (p : Pool) (k : Nat) (b : Option (List Nat)) : (p.setH k b).allocs = p.allocs := rfl
@[simp] theorem bump_objs (p : Pool) : p.bump.objs = p.objs := rfl
@[simp] theorem bump_heap (p : Pool) : p.bump.heap = p.heap := rfl
@[simp] theorem bump_next (p : Pool) : p.bump.next = p.next + 1 := rfl
@[simp] theorem bump_failAt (p : Pool) : p.bump.failAt = p.failAt := rfl
@[simp] theorem bump_allocs (p : Pool) : p.bump.allocs = p.allocs + 1 := rfl

@[simp] theorem bind_apply {α β : Type} (x : M α) (f : α → M β) (p : Pool) :
    (x >>= f) p = match x p with | .ok a p' => f a p' | .fault e p' => .fault e p' | .throw e p' => .throw e p' := rfl
@[simp] theorem pure_apply {α : Type} (a : α) (p : Pool) : (pure a : M α) p = .ok a p := rfl

theorem getObj_eq {s : Obj} (h : p.objs o = some s) : getObj o p = .ok s p := by
  simp [getObj, h]
theorem requireDead_eq (h : p.objs o = none) : requireDead o p = .ok () p := by
  simp [requireDead, h]
theorem setObj_eq (p : Pool) (o : Nat) (s : Obj) : setObj o s p = .ok () (p.setO o (some s)) := rfl
theorem dropObj_eq (p : Pool) (o : Nat) : dropObj o p = .ok () (p.setO o none) := rfl
theorem newBlock_eq (n : Nat) (h : p.failAt ≠ some (p.allocs + 1)) :
    newBlock n p = .ok (.heap p.next) (p.setH p.next (some (List.replicate n 0xCD))).bump := by
  simp [newBlock, h, Pool.setH, Pool.bump]
theorem newBlock_fail (n : Nat) (h : p.failAt = some (p.allocs + 1)) :
    newBlock n p = .throw .badAlloc { p with allocs := p.allocs + 1 } := by
  simp [newBlock, h]
theorem deleteBlock_eq (h : p.heap k = some blk) : deleteBlock (.heap k) p = .ok () (p.setH k none) := by
  simp [deleteBlock, h, Pool.setH]
theorem readUnits_stack {p : Pool} {o : Nat} {s : Obj} (n : Nat) (h : p.objs o = some s) (hn : n ≤ s.stack.length) :
    readUnits (.stack o) n p = .ok (s.stack.take n) p := by
  simp [readUnits, h, hn]
theorem readUnits_heap {p : Pool} {k : Nat} {blk : List Nat} (n : Nat) (h : p.heap k = some blk) (hn : n ≤ blk.length) :
    readUnits (.heap k) n p = .ok (blk.take n) p := by
  simp [readUnits, h, hn]
theorem writeUnits_stack {s : Obj} (at_ : Nat) (us : List Nat) (h : p.objs o = some s)
    (hn : at_ + us.length ≤ s.stack.length) :
    writeUnits (.stack o) at_ us p = .ok () (p.setO o (some { s with stack := overwrite s.stack at_ us })) := by
  simp [writeUnits, h, hn, Pool.setO]
theorem writeUnits_heap (at_ : Nat) (us : List Nat) (h : p.heap k = some blk) (hn : at_ + us.length ≤ blk.length) :
    writeUnits (.heap k) at_ us p = .ok () (p.setH k (some (overwrite blk at_ us))) := by
  simp [writeUnits, h, hn, Pool.setH]

theorem set_get (st : ByteLog.State) (o : Nat) (a : Option (List Nat)) : (st.set o a) o = a := if_pos rfl

theorem set_ne (st : ByteLog.State) {x : Nat} (a : Option (List Nat)) (h : x ≠ o) : (st.set o a) x = st x := if_neg h

theorem eq_set {st st' : ByteLog.State} {v : Option (List Nat)} (hfr : ∀ x, x ≠ o → st' x = st x) (ho : st' o = v) :
    st' = st.set o v := by
  funext x
  by_cases hx : x = o
  · rw [hx, ho, set_get]
  · rw [hfr x hx, set_ne _ _ hx]

theorem eq_set₂ {st st' : ByteLog.State} {o' : Nat} {v v' : Option (List Nat)}
    (hfr : ∀ x, x ≠ o → x ≠ o' → st' x = st x) (ho : st' o = v) (ho' : st' o' = v') : st' = (st.set o v).set o' v' := by
  refine eq_set (fun x hx' => ?_) ho'
  by_cases hx : x = o
  · rw [hx, ho, set_get]
  · rw [hfr x hx hx', set_ne _ _ hx]

theorem set_same (st : ByteLog.State) (o : Nat) (v : Option (List Nat)) (h : st o = v) : st.set o v = st :=
  (eq_set (fun _ _ => rfl) h).symm

theorem set_set (st : ByteLog.State) (o : Nat) (a b : Option (List Nat)) : (st.set o a).set o b = st.set o b :=
  (eq_set (fun _ hx => (set_ne _ _ hx).trans (set_ne _ _ hx).symm) (set_get _ _ _)).symm

theorem abs_live {s : Obj} (ho : p.objs o = some s) : abs p o = some ((content p s).take s.size) := by
  simp only [abs, ho]

theorem abs_none (ho : p.objs o = none) : abs p o = none := by simp only [abs, ho]

theorem content_stack {s : Obj} (ho : p.objs o = some s) (hc : s.chars = .stack o) :
    content p s = s.stack := by simp only [content, hc, ho]

theorem content_heap {s : Obj} (hc : s.chars = .heap k) (hk : p.heap k = some blk) :
    content p s = blk := by simp only [content, hc, hk]

theorem abs_dead : abs p o = none ↔ p.objs o = none := by
  refine ⟨fun h => ?_, abs_none⟩
  cases hs : p.objs o with
  | none => rfl
  | some s => rw [abs_live hs] at h; cases h

theorem live_of_some {b : List Nat} (h : abs p o = some b) : ∃ s, p.objs o = some s :=
  Option.ne_none_iff_exists'.mp fun hs => by rw [abs_none hs] at h; cases h

theorem live_of_abs (h : (abs p o).isSome = true) : ∃ s b, p.objs o = some s ∧ abs p o = some b := by
  obtain ⟨b, hb⟩ := Option.isSome_iff_exists.mp h
  obtain ⟨s, hs⟩ := live_of_some hb
  exact ⟨s, b, hs, hb⟩

theorem dead_of_abs (h : (abs p o).isNone = true) : p.objs o = none :=
  abs_dead.mp (Option.isNone_iff_eq_none.mp h)

inductive ModeOf (p : Pool) (o : Nat) (s : Obj) : Prop where
  | stack (ha : s.alloc = stackStringSize) (hc : s.chars = .stack o) (hh : s.isHeap = false)
  | heap (k : Nat) (blk : List Nat) (ha : stackStringSize < s.alloc) (hc : s.chars = .heap k) (hk : p.heap k = some blk)
      (hl : blk.length = s.alloc) (hh : s.isHeap = true)

theorem Inv.mode (hi : Inv p) {s : Obj} (ho : p.objs o = some s) : ModeOf p o s := by
  obtain ⟨_, _, h | ⟨h, k, blk, hc, hk, hl⟩⟩ := hi.obj o s ho
  · exact .stack h.1 h.2 (decide_eq_false (Nat.not_lt.mpr (Nat.le_of_eq h.1)))
  · exact .heap k blk h hc hk hl (decide_eq_true h)

theorem Inv.stackLen (hi : Inv p) {s : Obj} (ho : p.objs o = some s) : s.stack.length = stackStringSize :=
  (hi.obj o s ho).1

theorem Inv.sizeLe (hi : Inv p) {s : Obj} (ho : p.objs o = some s) : s.size ≤ s.alloc :=
  (hi.obj o s ho).2.1

theorem Inv.capLe (hi : Inv p) {s : Obj} (ho : p.objs o = some s) : stackStringSize ≤ s.alloc := by
  cases hi.mode ho with
  | stack ha => exact Nat.le_of_eq ha.symm
  | heap _ _ ha => exact Nat.le_of_lt ha

theorem Inv.lt_next (hi : Inv p) (hk : p.heap k = some blk) : k < p.next :=
  Nat.lt_of_not_le fun h => by rw [hi.fresh k h] at hk; cases hk

theorem Inv.block (hi : Inv p) {x : Nat} {t : Obj} (hx : p.objs x = some t) (hc : t.chars = .heap k) :
    ∃ blk, p.heap k = some blk ∧ blk.length = t.alloc := by
  cases hi.mode hx with
  | stack _ hc' => rw [hc'] at hc; cases hc
  | heap k' blk _ hc' hk hl => rw [hc'] at hc; cases hc; exact ⟨blk, hk, hl⟩

theorem Inv.content_length (hi : Inv p) {s : Obj} (ho : p.objs o = some s) : (content p s).length = s.alloc := by
  cases hi.mode ho with
  | stack ha hc => rw [content_stack ho hc, hi.stackLen ho, ha]
  | heap k blk _ hc hk hl => rw [content_heap hc hk, hl]

theorem Inv.shows_length (hi : Inv p) {s : Obj} (ho : p.objs o = some s) {b : List Nat} (hb : abs p o = some b) :
    b.length = s.size := by
  rw [abs_live ho] at hb; cases hb
  rw [List.length_take, hi.content_length ho]
  exact Nat.min_eq_left (hi.sizeLe ho)

theorem abs_frame {p' : Pool} (hi : Inv p) (x : Nat) (hobjs : p'.objs x = p.objs x)
    (hheap : ∀ t k, p.objs x = some t → t.chars = .heap k → p'.heap k = p.heap k) : abs p' x = abs p x := by
  cases hx : p.objs x with
  | none => rw [abs_none hx, abs_none (hobjs.trans hx)]
  | some t =>
    rw [abs_live hx, abs_live (hobjs.trans hx)]
    cases hi.mode hx with
    | stack _ hc => rw [content_stack hx hc, content_stack (hobjs.trans hx) hc]
    | heap k blk _ hc hk => rw [content_heap hc hk, content_heap hc ((hheap t k hx hc).trans hk)]

def Pool.free (p : Pool) : Ptr → Pool
  | .heap k => p.setH k none
  | .stack _ => p

@[simp] theorem free_objs (p : Pool) (c : Ptr) : (p.free c).objs = p.objs := by cases c <;> rfl
@[simp] theorem free_next (p : Pool) (c : Ptr) : (p.free c).next = p.next := by cases c <;> rfl
@[simp] theorem free_failAt (p : Pool) (c : Ptr) : (p.free c).failAt = p.failAt := by cases c <;> rfl
theorem free_heap (p : Pool) (c : Ptr) (x : Nat) : (p.free c).heap x = if c = .heap x then none else p.heap x := by
  cases c with
  | stack o => simp [Pool.free]
  | heap k => simp [Pool.free, eq_comm]

theorem Inv.readUnits (hi : Inv p) {s : Obj} (ho : p.objs o = some s) {n : Nat} (hn : n ≤ s.alloc)
    {q : Pool} (hqo : q.objs o = some s) (hqh : ∀ k blk, p.heap k = some blk → q.heap k = some blk) :
    readUnits s.chars n q = .ok ((content p s).take n) q := by
  cases hi.mode ho with
  | stack ha hc =>
    rw [content_stack ho hc, hc]
    exact readUnits_stack n hqo (by rw [hi.stackLen ho, ← ha]; exact hn)
  | heap k blk _ hc hk hl =>
    rw [content_heap hc hk, hc]
    exact readUnits_heap n (hqh k blk hk) (by rw [hl]; exact hn)

/-- `if (is_heap()) delete[] m_chars;` followed by `rest` (`do` copies what follows an `if` into both branches) -/
theorem Inv.deleteIfHeap (hi : Inv p) {s : Obj} (ho : p.objs o = some s) {q : Pool}
    (hqh : ∀ k blk, p.heap k = some blk → q.heap k = some blk) {α : Type} (rest : M α) :
    (if s.isHeap = true then deleteBlock s.chars >>= fun _ => rest else rest) q = rest (q.free s.chars) := by
  cases hi.mode ho with
  | stack _ hc hh => rw [hh, hc]; rfl
  | heap k blk _ hc hk _ hh => rw [if_pos hh, bind_apply, hc, deleteBlock_eq (hqh k blk hk)]; rfl

end StVerif.Stream
