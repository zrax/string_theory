/-
  Bridge for the translated conversion loops (the `…_measure_from_…` / `…_convert_from_…` functions of
  include/st_utf_conv_priv.h as written by tools/gen_kernels.py): each translated loop, run over a whole
  source with enough fuel, is the model's `measure` / `fill (stepCh …)` over the model's decoder.
-/
import StVerif.Lemmas.KernelBridge
import StVerif.Lemmas.Utf
open StVerif.Cxx StVerif.Generated StVerif.Utf

namespace StVerif.KernelBridge

/-- A sizing pass `while (sp < ep) { v = <step>; count += g v; }` (`g v` at most `k`, the sum taken modulo 2^64) returns
    the sum over the decoded source when `k` units per source unit cannot wrap.  `hloop` is the loop's own equation (by
    `rfl`, which also finds `body`); what is shown per function is what `body` does on the value of the step. -/
theorem Steps.measure_eq {R : Nat → Nat → Nat → Prop} {dec : List Nat → List Nat} {mem : List Nat} (H : Steps R dec mem)
    (g : Nat → Nat) (k : Nat) (hg : ∀ v, g v ≤ k) (loop body : Nat → Nat → Nat → M Nat)
    (hloop : ∀ n acc p, loop (n + 1) acc p = if p < mem.length then body n acc p else .ok acc)
    (hbody : ∀ n acc p v p', R p v p' → body n acc p = loop n ((acc + g v) % 18446744073709551616) p')
    (fuel : Nat) (hf : mem.length < fuel) (hk : k * mem.length < 2 ^ 64) :
    loop fuel 0 0 = .ok ((dec mem).map g).sum := by
  -- the count is at most `k` per source unit behind the position
  have h := H.loop_eq (fun n p acc => loop n acc p) (fun _ vs acc => .ok (acc + (vs.map g).sum)) (fun p acc => acc ≤ k * p)
    (fun n p acc hp => by rw [hloop, if_neg (Nat.not_lt.2 hp)]; rfl) ?_
    fuel 0 0 (Nat.zero_le _) hf (Nat.zero_le _)
  · simpa using h
  · intro n p acc v p' vs hp h1 h2 hR hI ih
    -- `k * p + k` is `k * (p + 1)` by definition, and `h1` says `p + 1 ≤ p'`
    have hI' : acc + g v ≤ k * p' := Nat.le_trans (Nat.add_le_add hI (hg v)) (Nat.mul_le_mul_left k h1)
    rw [hloop, if_pos hp, hbody n acc p v p' hR,
      Nat.mod_eq_of_lt (Nat.lt_of_le_of_lt (Nat.le_trans hI' (Nat.mul_le_mul_left k h2)) hk), ih _ hI', List.map_cons,
      List.sum_cons, Nat.add_assoc]

/-- what the translated fill pass returns for a model `Fill`: the error code (0 = success) and the units stored -/
def fillResult (f : Fill) : M (Int × List Nat) :=
  match f.status with
  | .done => .ok ((0 : Int), f.out)
  | .error k => .ok ((k : Int), f.out)
  | .assertFail msg => .error (.assertFail msg)

theorem fillResult_out {f : Fill} {code : Int} {out : List Nat} (h : fillResult f = .ok (code, out)) : out = f.out := by
  unfold fillResult at h
  split at h <;> cases h <;> rfl

/-- the enumerator values of `ST::utf_validation_t` (include/st_utf_conv.h) -/
def modeCode : Mode → Int
  | .assumeValid => 0
  | .substituteInvalid => 1
  | .checkValidity => 2

/-- what a filling pass does on a step of the model, `out` being stored already: store the units and go on with `k`,
    or stop with the error code -/
def runStep (k : List Nat → M (Int × List Nat)) (out : List Nat) : Step → M (Int × List Nat)
  | .units us => k (out ++ us)
  | .error e => .ok ((e : Int), out)
  | .assertFail msg => .error (.assertFail msg)

/-- A filling pass `while (sp < ep) { v = <step>; … }` whose body does on the value `v` what the model's step `stp v` says
    returns the model's `fill`.  `hloop` as in `Steps.measure_eq`. -/
theorem Steps.fill_eq {R : Nat → Nat → Nat → Prop} {dec : List Nat → List Nat} {mem : List Nat} (H : Steps R dec mem)
    (stp : Nat → Step) (loop body : Nat → Nat → List Nat → M (Int × List Nat))
    (hloop : ∀ n p out, loop (n + 1) p out = if p < mem.length then body n p out else .ok ((0 : Int), out))
    (hbody : ∀ n p out v p', R p v p' → body n p out = runStep (loop n p') out (stp v))
    (fuel : Nat) (hf : mem.length < fuel) : loop fuel 0 [] = fillResult (fill stp (dec mem)) := by
  -- entered with `out` already stored, the loop returns what `fill` of the rest says, behind `out`
  refine H.loop_eq loop (fun _ vs out => fillResult ⟨out ++ (fill stp vs).out, (fill stp vs).status⟩) (fun _ _ => True)
    (fun n p out hp => by rw [hloop, if_neg (Nat.not_lt.2 hp)]; simp only [fill, fillResult, List.append_nil]) ?_
    fuel 0 [] (Nat.zero_le _) hf trivial
  intro n p out v p' vs hp _ _ hR _ ih
  rw [hloop, if_pos hp, hbody n p out v p' hR, fill]
  cases stp v with
  | units us => simp only [runStep, ih _ trivial, List.append_assoc]
  | error e => simp only [runStep, fillResult, List.append_nil]
  | assertFail msg => rfl

/-! The body of a filling pass and the model's step make the same tests in the same order.  What differs is how a test is
written (`modeCode_eq_two`, `Int.natCast_ne_zero` for the error code of `char_error`, `flag_ne_zero`) and that the
model's tests sit inside `runStep` (`runStep_ite`).  With these rewritten the two sides are the same cascade of tests,
up to `runStep` of a constructor and the model's names for constants, which `rfl` sees through.
`stepCh` is unfolded by `dsimp`: `simp only [stepCh]` would prove the reduction of its `match` on the two encodings anew
in every loop, which is slow to check. -/

theorem runStep_ite {k out} (c : Prop) [Decidable c] (a b : Step) :
    runStep k out (if c then a else b) = if c then runStep k out a else runStep k out b :=
  apply_ite _ _ _ _

/-- the value of an extract step (`extract_utf8_steps`, `extract_utf16_steps`) is in the range of `char_error_eq` -/
theorem char_error_step {β : Type} {v : Nat} (h : v < 2 ^ 23) (f : Int → M β) :
    (Kernels.char_error v >>= f) = f ↑(charError v) :=
  bind_of_ok (char_error_eq v (Nat.lt_trans h (by decide))) f

theorem modeCode_eq_two (m : Mode) : modeCode m = 2 ↔ m = .checkValidity := by
  cases m <;> decide

theorem utf8_measure_from_utf16_eq (mem : List Nat) (fuel : Nat) (hf : mem.length < fuel) (hl : 4 * mem.length < 2 ^ 64) :
    Kernels.utf8_measure_from_utf16 mem fuel 0 false mem.length = .ok (Utf.measure .utf16 .utf8 mem) := by
  unfold Kernels.utf8_measure_from_utf16
  simp only [↓reduceIte, Nat.zero_add]
  refine (extract_utf16_steps mem).measure_eq utf8Measure 4 Lemmas.Utf.utf8Measure_le _ _ (fun _ _ _ => rfl) ?_ fuel hf hl
  intro n acc p v p' h
  simp only [h.1, ok_bind, utf8_measure_eq]

theorem utf8_convert_from_utf16_eq (mem : List Nat) (m : Mode) (subst : Bool) (hu : ∀ u ∈ mem, u < 65536)
    (fuel : Nat) (hf : mem.length < fuel) :
    Kernels.utf8_convert_from_utf16 mem fuel 0 mem.length (modeCode m)
      = fillResult (fill (stepCh .utf16 .utf8 m subst) (decode .utf16 mem)) := by
  unfold Kernels.utf8_convert_from_utf16
  simp only [Nat.zero_add]
  refine (extract_utf16_steps mem).fill_eq _ _ _ (fun _ _ _ => rfl) ?_ fuel hf
  intro n p out v p' h
  dsimp only [stepCh]
  simp only [↓bind_of_ok h.1, ↓char_error_step (h.2 hu), ↓bind_of_ok (write_utf8_eq v), runStep_ite, modeCode_eq_two,
    Int.natCast_ne_zero]
  cases writeUtf8 v <;> rfl

theorem utf32_measure_from_utf16_eq (mem : List Nat) (fuel : Nat) (hf : mem.length < fuel) (hl : mem.length < 2 ^ 64) :
    Kernels.utf32_measure_from_utf16 mem fuel 0 false mem.length = .ok (Utf.measure .utf16 .utf32 mem) := by
  unfold Kernels.utf32_measure_from_utf16
  simp only [↓reduceIte, Nat.zero_add]
  refine (extract_utf16_steps mem).measure_eq (measureCh .utf16 .utf32) 1 (fun _ => Nat.le_refl 1) _ _ (fun _ _ _ => rfl) ?_
    fuel hf (by rwa [Nat.one_mul])
  intro n acc p v p' h
  simp only [h.1, ok_bind, measureCh]

theorem utf32_convert_from_utf16_eq (mem : List Nat) (m : Mode) (subst : Bool) (hu : ∀ u ∈ mem, u < 65536)
    (fuel : Nat) (hf : mem.length < fuel) :
    Kernels.utf32_convert_from_utf16 mem fuel 0 mem.length (modeCode m)
      = fillResult (fill (stepCh .utf16 .utf32 m subst) (decode .utf16 mem)) := by
  unfold Kernels.utf32_convert_from_utf16
  simp only [Nat.zero_add]
  refine (extract_utf16_steps mem).fill_eq _ _ _ (fun _ _ _ => rfl) ?_ fuel hf
  intro n p out v p' h
  dsimp only [stepCh]
  simp only [↓bind_of_ok h.1, ↓char_error_step (h.2 hu), runStep_ite, modeCode_eq_two, Int.natCast_ne_zero]
  rfl

theorem utf16_measure_from_utf8_eq (mem : List Nat) (fuel : Nat) (hf : mem.length < fuel) (hl : 2 * mem.length < 2 ^ 64) :
    Kernels.utf16_measure_from_utf8 mem fuel 0 false mem.length = .ok (Utf.measure .utf8 .utf16 mem) := by
  unfold Kernels.utf16_measure_from_utf8
  simp only [↓reduceIte, Nat.zero_add]
  refine (extract_utf8_steps mem).measure_eq utf16Measure 2 Lemmas.Utf.utf16Measure_le _ _ (fun _ _ _ => rfl) ?_ fuel hf hl
  intro n acc p v p' h
  simp only [h.1, ok_bind, utf16_measure_eq]

theorem utf16_convert_from_utf8_eq (mem : List Nat) (m : Mode) (subst : Bool) (fuel : Nat) (hf : mem.length < fuel) :
    Kernels.utf16_convert_from_utf8 mem fuel 0 mem.length (modeCode m)
      = fillResult (fill (stepCh .utf8 .utf16 m subst) (decode .utf8 mem)) := by
  unfold Kernels.utf16_convert_from_utf8
  simp only [Nat.zero_add]
  refine (extract_utf8_steps mem).fill_eq _ _ _ (fun _ _ _ => rfl) ?_ fuel hf
  intro n p out v p' h
  dsimp only [stepCh]
  simp only [↓bind_of_ok h.1, ↓char_error_step h.2, ↓bind_of_ok (write_utf16_eq v), runStep_ite, modeCode_eq_two,
    Int.natCast_ne_zero]
  cases writeUtf16 v
  · -- not encodable: `write_utf16` stored nothing (`out ++ []`); the model tests `m` only here
    simp only [runStep_ite, List.append_nil]
    rfl
  · rfl

theorem utf32_measure_from_utf8_eq (mem : List Nat) (fuel : Nat) (hf : mem.length < fuel) (hl : mem.length < 2 ^ 64) :
    Kernels.utf32_measure_from_utf8 mem fuel 0 false mem.length = .ok (Utf.measure .utf8 .utf32 mem) := by
  unfold Kernels.utf32_measure_from_utf8
  simp only [↓reduceIte, Nat.zero_add]
  refine (extract_utf8_steps mem).measure_eq (measureCh .utf8 .utf32) 1 (fun _ => Nat.le_refl 1) _ _ (fun _ _ _ => rfl) ?_
    fuel hf (by rwa [Nat.one_mul])
  intro n acc p v p' h
  simp only [h.1, ok_bind, measureCh]

theorem utf32_convert_from_utf8_eq (mem : List Nat) (m : Mode) (subst : Bool) (fuel : Nat) (hf : mem.length < fuel) :
    Kernels.utf32_convert_from_utf8 mem fuel 0 mem.length (modeCode m)
      = fillResult (fill (stepCh .utf8 .utf32 m subst) (decode .utf8 mem)) := by
  unfold Kernels.utf32_convert_from_utf8
  simp only [Nat.zero_add]
  refine (extract_utf8_steps mem).fill_eq _ _ _ (fun _ _ _ => rfl) ?_ fuel hf
  intro n p out v p' h
  dsimp only [stepCh]
  simp only [↓bind_of_ok h.1, ↓char_error_step h.2, runStep_ite, modeCode_eq_two, Int.natCast_ne_zero]
  rfl

/-! UTF-32 sources are read directly (`rd32`, one unit per iteration, no extract step).  No hypothesis on the size of the
source units is needed: the translated tests and the model's tests are the same tests on the same naturals. -/

theorem utf8_measure_from_utf32_eq (mem : List Nat) (fuel : Nat) (hf : mem.length < fuel) (hl : 4 * mem.length < 2 ^ 64) :
    Kernels.utf8_measure_from_utf32 mem fuel 0 false mem.length = .ok (Utf.measure .utf32 .utf8 mem) := by
  unfold Kernels.utf8_measure_from_utf32
  simp only [↓reduceIte, Nat.zero_add]
  refine (rd_steps mem).measure_eq utf8Measure 4 Lemmas.Utf.utf8Measure_le _ _ (fun _ _ _ => rfl) ?_ fuel hf hl
  rintro n acc p v _ ⟨hr, rfl⟩
  simp only [↓bind_of_ok hr, utf8_measure_eq, ok_bind]

theorem utf8_convert_from_utf32_eq (mem : List Nat) (m : Mode) (subst : Bool)
    (fuel : Nat) (hf : mem.length < fuel) :
    Kernels.utf8_convert_from_utf32 mem fuel 0 mem.length (modeCode m)
      = fillResult (fill (stepCh .utf32 .utf8 m subst) (decode .utf32 mem)) := by
  unfold Kernels.utf8_convert_from_utf32
  simp only [Nat.zero_add]
  refine (rd_steps mem).fill_eq _ _ _ (fun _ _ _ => rfl) ?_ fuel hf
  rintro n p out v _ ⟨hr, rfl⟩
  dsimp only [stepCh]
  simp only [↓bind_of_ok hr, ↓bind_of_ok (write_utf8_eq v), modeCode_eq_two]
  cases writeUtf8 v
  · simp only [runStep_ite, List.append_nil]
    rfl
  · rfl

theorem utf16_measure_from_utf32_eq (mem : List Nat) (fuel : Nat) (hf : mem.length < fuel) (hl : 2 * mem.length < 2 ^ 64) :
    Kernels.utf16_measure_from_utf32 mem fuel 0 false mem.length = .ok (Utf.measure .utf32 .utf16 mem) := by
  unfold Kernels.utf16_measure_from_utf32
  simp only [↓reduceIte, Nat.zero_add]
  refine (rd_steps mem).measure_eq utf16Measure 2 Lemmas.Utf.utf16Measure_le _ _ (fun _ _ _ => rfl) ?_ fuel hf hl
  rintro n acc p v _ ⟨hr, rfl⟩
  simp only [↓bind_of_ok hr, utf16_measure_eq, ok_bind]

theorem utf16_convert_from_utf32_eq (mem : List Nat) (m : Mode) (subst : Bool)
    (fuel : Nat) (hf : mem.length < fuel) :
    Kernels.utf16_convert_from_utf32 mem fuel 0 mem.length (modeCode m)
      = fillResult (fill (stepCh .utf32 .utf16 m subst) (decode .utf32 mem)) := by
  unfold Kernels.utf16_convert_from_utf32
  simp only [Nat.zero_add]
  refine (rd_steps mem).fill_eq _ _ _ (fun _ _ _ => rfl) ?_ fuel hf
  rintro n p out v _ ⟨hr, rfl⟩
  dsimp only [stepCh]
  simp only [↓bind_of_ok hr, ↓bind_of_ok (write_utf16_eq v), modeCode_eq_two]
  cases writeUtf16 v
  · simp only [runStep_ite, List.append_nil]
    rfl
  · rfl

theorem utf8_measure_from_latin_1_eq (mem : List Nat) (fuel : Nat) (hf : mem.length < fuel) (hl : 2 * mem.length < 2 ^ 64) :
    Kernels.utf8_measure_from_latin_1 mem fuel 0 false mem.length = .ok (Utf.measure .latin1 .utf8 mem) := by
  unfold Kernels.utf8_measure_from_latin_1
  simp only [↓reduceIte, Nat.zero_add]
  refine (rd_steps mem).measure_eq (measureCh .latin1 .utf8) 2 (fun v => by dsimp only [measureCh]; split <;> decide) _ _
    (fun _ _ _ => rfl) ?_ fuel hf hl
  rintro n acc p v _ ⟨hr, rfl⟩
  simp only [↓bind_of_ok hr, measureCh]
  split <;> rfl

/-- A filling pass from Latin-1 cannot fail (the C++ functions are `void`: there is no error code to compare, see
    `fill_latin1_done`).  `hloop` as in `Steps.measure_eq`. -/
theorem latin1_fill_eq (mem : List Nat) (stp : Nat → Step) (f : Nat → List Nat) (hstp : ∀ v, stp v = .units (f v))
    (loop body : Nat → Nat → List Nat → M (List Nat))
    (hloop : ∀ n p out, loop (n + 1) p out = if p < mem.length then body n p out else .ok out)
    (hbody : ∀ n p out v, rd mem p = .ok v → body n p out = loop n (p + 1) (out ++ f v))
    (fuel : Nat) (hf : mem.length < fuel) : loop fuel 0 [] = .ok (fill stp mem).out := by
  refine (rd_steps mem).loop_eq loop (fun _ vs out => .ok (out ++ (fill stp vs).out)) (fun _ _ => True)
    (fun n p out hp => by rw [hloop, if_neg (Nat.not_lt.2 hp)]; simp only [fill, List.append_nil]) ?_
    fuel 0 [] (Nat.zero_le _) hf trivial
  rintro n p out v _ vs hp _ _ ⟨hr, rfl⟩ _ ih
  rw [hloop, if_pos hp, hbody n p out v hr, ih _ trivial, fill, hstp]
  simp only [List.append_assoc]

theorem utf8_convert_from_latin_1_eq (mem : List Nat) (m : Mode) (subst : Bool) (fuel : Nat) (hf : mem.length < fuel) :
    Kernels.utf8_convert_from_latin_1 mem fuel 0 mem.length
      = .ok (fill (stepCh .latin1 .utf8 m subst) (decode .latin1 mem)).out := by
  unfold Kernels.utf8_convert_from_latin_1
  simp only [Nat.zero_add]
  refine latin1_fill_eq mem _ _ (fun v => (apply_ite Step.units _ _ _).symm) _ _ (fun _ _ _ => rfl) ?_ fuel hf
  intro n p out v hr
  simp only [↓bind_of_ok hr]
  split <;> simp only [List.append_assoc, List.cons_append, List.nil_append]

theorem utf16_convert_from_latin_1_eq (mem : List Nat) (m : Mode) (subst : Bool) (fuel : Nat) (hf : mem.length < fuel) :
    Kernels.utf16_convert_from_latin_1 mem fuel 0 mem.length
      = .ok (fill (stepCh .latin1 .utf16 m subst) (decode .latin1 mem)).out := by
  unfold Kernels.utf16_convert_from_latin_1
  simp only [Nat.zero_add]
  refine latin1_fill_eq mem _ _ (fun _ => rfl) _ _ (fun _ _ _ => rfl) ?_ fuel hf
  intro n p out v hr
  simp only [↓bind_of_ok hr]

theorem utf32_convert_from_latin_1_eq (mem : List Nat) (m : Mode) (subst : Bool) (fuel : Nat) (hf : mem.length < fuel) :
    Kernels.utf32_convert_from_latin_1 mem fuel 0 mem.length
      = .ok (fill (stepCh .latin1 .utf32 m subst) (decode .latin1 mem)).out := by
  unfold Kernels.utf32_convert_from_latin_1
  simp only [Nat.zero_add]
  refine latin1_fill_eq mem _ _ (fun _ => rfl) _ _ (fun _ _ _ => rfl) ?_ fuel hf
  intro n p out v hr
  simp only [↓bind_of_ok hr]

/-- the model's fill pass from Latin-1 always runs to the end, so `.out` above is the whole result -/
theorem fill_latin1_done (dst : Enc) (m : Mode) (subst : Bool) (xs : List Nat) :
    (fill (stepCh .latin1 dst m subst) xs).status = .done := by
  induction xs with
  | nil => rfl
  | cons x r ih =>
    have ⟨us, h⟩ : ∃ us, stepCh .latin1 dst m subst x = .units us := by
      cases dst
      case utf8 => exact ⟨_, (apply_ite Step.units _ _ _).symm⟩
      all_goals exact ⟨_, rfl⟩
    rw [fill, h]
    exact ih

theorem latin_1_measure_from_utf8_eq (mem : List Nat) (fuel : Nat) (hf : mem.length < fuel) (hl : mem.length < 2 ^ 64) :
    Kernels.latin_1_measure_from_utf8 mem fuel 0 false mem.length = .ok (Utf.measure .utf8 .latin1 mem) := by
  unfold Kernels.latin_1_measure_from_utf8
  rw [utf32_measure_from_utf8_eq mem fuel hf hl]
  rfl

theorem latin_1_measure_from_utf16_eq (mem : List Nat) (fuel : Nat) (hf : mem.length < fuel) (hl : mem.length < 2 ^ 64) :
    Kernels.latin_1_measure_from_utf16 mem fuel 0 false mem.length = .ok (Utf.measure .utf16 .latin1 mem) := by
  unfold Kernels.latin_1_measure_from_utf16
  rw [utf32_measure_from_utf16_eq mem fuel hf hl]
  rfl

/-- the store `*dp++ = static_cast<char>(bigch)` of a value below 0x100 keeps the value (as an unsigned byte) -/
theorem l1_char_cast (v : Nat) (h : v < 256) : (((((v : Nat) : Int) + 128) % 256 - 128) % 256).toNat = v := by
  rw [Int.emod_sub_emod, Int.add_sub_cancel, Int.emod_eq_of_lt (b := 256) (Int.natCast_nonneg v) (Int.ofNat_lt.2 h),
    Int.toNat_natCast]

theorem latin_1_convert_from_utf8_eq (mem : List Nat) (m : Mode) (subst : Bool) (fuel : Nat) (hf : mem.length < fuel) :
    Kernels.latin_1_convert_from_utf8 mem fuel 0 mem.length (modeCode m) (if subst then 1 else 0)
      = fillResult (fill (stepCh .utf8 .latin1 m subst) (decode .utf8 mem)) := by
  unfold Kernels.latin_1_convert_from_utf8
  simp only [Nat.zero_add]
  refine (extract_utf8_steps mem).fill_eq _ _ _ (fun _ _ _ => rfl) ?_ fuel hf
  intro n p out v p' h
  dsimp only [stepCh, latin1Tail]
  simp only [↓bind_of_ok h.1, ↓char_error_step h.2, runStep_ite, modeCode_eq_two, Int.natCast_ne_zero, flag_ne_zero]
  rfl

theorem latin_1_convert_from_utf16_eq (mem : List Nat) (m : Mode) (subst : Bool) (hu : ∀ u ∈ mem, u < 65536)
    (fuel : Nat) (hf : mem.length < fuel) :
    Kernels.latin_1_convert_from_utf16 mem fuel 0 mem.length (modeCode m) (if subst then 1 else 0)
      = fillResult (fill (stepCh .utf16 .latin1 m subst) (decode .utf16 mem)) := by
  unfold Kernels.latin_1_convert_from_utf16
  simp only [Nat.zero_add]
  refine (extract_utf16_steps mem).fill_eq _ _ _ (fun _ _ _ => rfl) ?_ fuel hf
  intro n p out v p' h
  dsimp only [stepCh, latin1Tail]
  simp only [↓bind_of_ok h.1, ↓char_error_step (h.2 hu), runStep_ite, modeCode_eq_two, Int.natCast_ne_zero, flag_ne_zero]
  rfl

theorem latin_1_convert_from_utf32_eq (mem : List Nat) (m : Mode) (subst : Bool) (fuel : Nat) (hf : mem.length < fuel) :
    Kernels.latin_1_convert_from_utf32 mem fuel 0 mem.length (modeCode m) (if subst then 1 else 0)
      = fillResult (fill (stepCh .utf32 .latin1 m subst) (decode .utf32 mem)) := by
  unfold Kernels.latin_1_convert_from_utf32
  simp only [Nat.zero_add]
  refine (rd_steps mem).fill_eq _ _ _ (fun _ _ _ => rfl) ?_ fuel hf
  rintro n p out v _ ⟨hr, rfl⟩
  dsimp only [stepCh, latin1Tail]
  simp only [↓bind_of_ok hr, runStep_ite, modeCode_eq_two, flag_ne_zero, ite_cascade_and]
  rfl

end StVerif.KernelBridge
