/-
  Lemmas about the invariant of the pool machine (`Pool.Inv`), the abstraction `view` and the frame relation
  `Succ` (all defined in `Lemmas/PoolDefs.lean`): the frame lemma `Inv.frame`, and the few shapes of state
  change that carry every member function:
    * an object is set to a self-contained local state or removed, its former block released (`set_local`);
    * an object takes the freshly allocated block (`fresh`);
    * two objects exchange their storage, either of which may be none (`exchange`: both move operations);
    * units are stored inside a long object's own block (`write_long`).
  Each of these is stated for the successor state as the do-blocks compute it (`{ p with objs := upd … }`), so a
  member function's proof evaluates its do-block and names the shape.  `transfer` is the corollary of `exchange`
  for a block that moves to an object holding none, with the successor state described field by field; no
  member function needs it in that form.
-/
import StVerif.Lemmas.PoolBasic

namespace StVerif.Pool

variable {p p' : Pool} {o k n x : Nat} {b : Buf} {T : Nat → Prop}

theorem Inv.owner_block (hI : Inv p) (h : p.objs o = some b) (hl : p.L ≤ b.size) :
    ∃ k blk, b.chars = .heap k ∧ p.heap k = some blk ∧ blk.length = b.size + 1 ∧ blk[b.size]? = some 0 ∧ Owns p o k := by
  obtain ⟨k, blk, h1, h2, h3, h4⟩ := (hI.obj o b h).long hl
  exact ⟨k, blk, h1, h2, h3, h4, b, h, hl, h1⟩

theorem Inv.short_chars (hI : Inv p) (h : p.objs o = some b) (hs : b.size < p.L) :
    b.chars = .loc o ∧ b.data[b.size]? = some 0 ∧ b.data.length = p.L :=
  ⟨((hI.obj o b h).short hs).1, ((hI.obj o b h).short hs).2, (hI.obj o b h).len⟩

theorem Inv.storage (hI : Inv p) (h : p.objs o = some b) :
    (b.size < p.L ∧ b.chars = .loc o ∧ b.data[b.size]? = some 0 ∧ b.data.length = p.L) ∨
    (p.L ≤ b.size ∧ ∃ k blk, b.chars = .heap k ∧ p.heap k = some blk ∧ blk.length = b.size + 1 ∧ blk[b.size]? = some 0 ∧
      Owns p o k) := by
  by_cases hs : b.size < p.L
  · exact Or.inl ⟨hs, hI.short_chars h hs⟩
  · exact Or.inr ⟨Nat.le_of_not_lt hs, hI.owner_block h (Nat.le_of_not_lt hs)⟩

theorem units_short (h : p.objs o = some b) (hc : b.chars = .loc o) : units p b = b.data.take b.size := by
  simp [units, hc, h]

theorem units_long {blk : List Nat} (hc : b.chars = .heap k) (hk : p.heap k = some blk) : units p b = blk.take b.size := by
  simp [units, hc, hk]

theorem view_short (h : p.objs o = some b) (hc : b.chars = .loc o) : view p o = some (b.size, b.data.take b.size) := by
  simp [view, h, units_short h hc]

theorem view_long {blk : List Nat} (h : p.objs o = some b) (hc : b.chars = .heap k) (hk : p.heap k = some blk) :
    view p o = some (b.size, blk.take b.size) := by
  simp [view, h, units_long hc hk]

theorem view_of_objs (hb : p.objs o = some b) : view p o = some (b.size, units p b) := by
  simp [view, hb]

theorem view_size {us : List Nat} (hb : p.objs o = some b) (h : view p o = some (n, us)) : b.size = n := by
  rw [view_of_objs hb] at h; cases h; rfl

theorem units_of_view {us : List Nat} (hb : p.objs o = some b) (h : view p o = some (n, us)) : units p b = us := by
  rw [view_of_objs hb] at h; cases h; rfl

theorem view_eq_none : view p o = none ↔ p.objs o = none := by
  simp [view]

theorem objs_some_of_view {w : Nat × List Nat} (h : view p o = some w) : ∃ b, p.objs o = some b := by
  cases hb : p.objs o with
  | none => rw [view_eq_none.2 hb] at h; cases h
  | some b => exact ⟨b, rfl⟩

theorem objs_of_view {us : List Nat} (h : view p o = some (n, us)) :
    ∃ b, p.objs o = some b ∧ b.size = n ∧ units p b = us := by
  obtain ⟨b, hb⟩ := objs_some_of_view h
  exact ⟨b, hb, view_size hb h, units_of_view hb h⟩

theorem view_frame (hI : Inv p) (hx : p'.objs x = p.objs x) (hh : ∀ k, Owns p x k → p'.heap k = p.heap k) :
    view p' x = view p x := by
  unfold view
  rw [hx]
  cases hb : p.objs x with
  | none => rfl
  | some b =>
    simp only [Option.map_some, Option.some.injEq, Prod.mk.injEq, true_and]
    rcases hI.storage hb with ⟨_, hc, _⟩ | ⟨_, k, blk, h1, h2, _, _, hown⟩
    · simp [units, hc, hx, hb]
    · simp [units, h1, hh k hown, h2]

theorem Succ.mono {T' : Nat → Prop} (h : Succ p p' T) (hT : ∀ x, T x → T' x) : Succ p p' T' :=
  ⟨h.inv, h.L, h.failAt, fun x hx => h.objs x (fun h' => hx (hT x h')), fun x hx => h.view x (fun h' => hx (hT x h'))⟩

theorem Succ.trans {p₁ p₂ : Pool} (h₁ : Succ p p₁ T) (h₂ : Succ p₁ p₂ T) : Succ p p₂ T :=
  ⟨h₂.inv, h₂.L.trans h₁.L, h₂.failAt.trans h₁.failAt, fun x hx => (h₂.objs x hx).trans (h₁.objs x hx),
   fun x hx => (h₂.view x hx).trans (h₁.view x hx)⟩

theorem Succ.trans' {p₁ p₂ : Pool} {T₁ T₂ : Nat → Prop} (h₁ : Succ p p₁ T₁) (h₂ : Succ p₁ p₂ T₂)
    (m₁ : ∀ x, T₁ x → T x) (m₂ : ∀ x, T₂ x → T x) : Succ p p₂ T :=
  (h₁.mono m₁).trans (h₂.mono m₂)

-- named from `_root_`: inside a declaration `Succ.x` a bare `view`, `objs`, `inv` or `L` is the FIELD of `Succ`
theorem _root_.StVerif.Pool.Succ.shrink {p p' : Pool} {T T' : Nat → Prop} (h : Succ p p' T)
    (hx : ∀ x, T x → ¬ T' x → p'.objs x = p.objs x ∧ view p' x = view p x) : Succ p p' T' := by
  refine ⟨h.inv, h.L, h.failAt, fun x hnx => ?_, fun x hnx => ?_⟩
  · by_cases ht : T x
    · exact (hx x ht hnx).1
    · exact h.objs x ht
  · by_cases ht : T x
    · exact (hx x ht hnx).2
    · exact h.view x ht

theorem Succ.shrink_dead {T' : Nat → Prop} (h : Succ p p' T) (hx : ∀ x, T x → ¬ T' x → p.objs x = none ∧ p'.objs x = none) :
    Succ p p' T' :=
  h.shrink fun x ht hnt => by
    obtain ⟨a, b⟩ := hx x ht hnt
    exact ⟨by rw [a, b], by rw [view_eq_none.mpr a, view_eq_none.mpr b]⟩

theorem Owns_of_eq (hL : p'.L = p.L) (hx : p'.objs x = p.objs x) : Owns p' x k ↔ Owns p x k := by
  unfold Owns; rw [hL, hx]

theorem owns_iff (h : p.objs o = some b) : Owns p o k ↔ p.L ≤ b.size ∧ b.chars = .heap k := by
  constructor
  · rintro ⟨b', h1, h2⟩
    rw [h] at h1; cases h1; exact h2
  · exact fun h' => ⟨b, h, h'⟩

theorem Owns.inj {k' : Nat} (h : Owns p o k) (h' : Owns p o k') : k = k' := by
  have ⟨b, hb, _⟩ := h
  exact Ptr.heap.inj (((owns_iff hb).1 h).2.symm.trans ((owns_iff hb).1 h').2)

theorem NotOwning.not_owns (h : NotOwning p o) (k : Nat) : ¬ Owns p o k := by
  rintro ⟨b, h1, h2, _⟩
  exact Nat.not_le_of_lt (h b h1) h2

theorem notOwning_of_none (h : p.objs o = none) : NotOwning p o := by
  intro b hb; rw [h] at hb; cases hb

theorem notOwning_of_short (h : p.objs o = some b) (hs : b.size < p.L) : NotOwning p o := by
  intro b' hb; rw [h] at hb; cases hb; exact hs

theorem ShortOk.objOk {L : Nat} (h : ShortOk L o b) (heap : Nat → Option (List Nat)) : ObjOk L heap o b :=
  ⟨h.len, fun _ => ⟨h.chars, h.term⟩, fun hl => absurd hl (Nat.not_le_of_lt h.size)⟩

theorem ShortOk.not_owns {p : Pool} {o : Nat} {b : Buf} (h : ShortOk p.L o b) (hb : p.objs o = some b) (k : Nat) : ¬ Owns p o k :=
  (notOwning_of_short hb h.size).not_owns k

theorem Inv.heap_fresh (hI : Inv p) (hk : p.next ≤ k) : p.heap k = none := by
  cases h : p.heap k with
  | none => rfl
  | some blk => exact absurd (hI.bound k blk h) (Nat.not_lt.mpr hk)

/-- No hypothesis speaks of an untouched object: that those keep exclusive ownership of their blocks is shown here,
    once. -/
theorem Inv.frame (hI : Inv p) (T : Nat → Prop) (hL : p'.L = p.L) (hF : p'.failAt = p.failAt)
    (hobjs : ∀ x, ¬ T x → p'.objs x = p.objs x) (hok : ∀ x b, T x → p'.objs x = some b → ObjOk p.L p'.heap x b)
    (huniq : ∀ x y k, T x → T y → Owns p' x k → Owns p' y k → x = y)
    (hnew : ∀ x k, T x → Owns p' x k → (∃ y, T y ∧ Owns p y k) ∨ p.heap k = none)
    (hold : ∀ x k, T x → Owns p x k → (∃ y, T y ∧ Owns p' y k) ∨ p'.heap k = none)
    (hheap : ∀ k, (∀ x, T x → ¬ Owns p x k) → (∀ x, T x → ¬ Owns p' x k) → p'.heap k = p.heap k)
    (hbound : ∀ k blk, p'.heap k = some blk → k < p'.next) : Succ p p' T := by
  have hfar : ∀ y k, ¬ T y → Owns p y k → ∀ x, T x → ¬ Owns p' x k := by
    intro y k hy hk x hx h
    have ⟨b, hb, hl, hc⟩ := hk
    obtain ⟨_, blk, hc', hblk, _⟩ := hI.owner_block hb hl
    cases hc.symm.trans hc'
    rcases hnew x k hx h with ⟨z, hz, h'⟩ | h'
    · exact hy (hI.uniq z y k h' hk ▸ hz)
    · rw [hblk] at h'; cases h'
  have hout : ∀ y k, ¬ T y → Owns p y k → p'.heap k = p.heap k := fun y k hy hk =>
    hheap k (fun x hx h => hy (hI.uniq x y k h hk ▸ hx)) (hfar y k hy hk)
  refine ⟨⟨by rw [hL]; exact hI.Lpos, ?_, ?_, ?_, hbound⟩, hL, hF, hobjs,
    fun x hx => view_frame hI (hobjs x hx) (hout x · hx)⟩
  · intro x b hx
    rw [hL]
    by_cases hT : T x
    · exact hok x b hT hx
    · rw [hobjs x hT] at hx
      have h0 := hI.obj x b hx
      refine ⟨h0.len, h0.short, fun hl => ?_⟩
      obtain ⟨k, blk, h1, h2, h3, h4⟩ := h0.long hl
      exact ⟨k, blk, h1, by rw [hout x k hT ⟨b, hx, hl, h1⟩]; exact h2, h3, h4⟩
  · intro x y k h1 h2
    by_cases hx : T x <;> by_cases hy : T y
    · exact huniq x y k hx hy h1 h2
    · exact absurd h1 (hfar y k hy ((Owns_of_eq hL (hobjs y hy)).1 h2) x hx)
    · exact absurd h2 (hfar x k hx ((Owns_of_eq hL (hobjs x hx)).1 h1) y hy)
    · exact hI.uniq x y k ((Owns_of_eq hL (hobjs x hx)).1 h1) ((Owns_of_eq hL (hobjs y hy)).1 h2)
  · intro k blk hk
    by_cases h' : ∃ x, T x ∧ Owns p' x k
    · obtain ⟨x, _, hx⟩ := h'; exact ⟨x, hx⟩
    · have hn' : ∀ x, T x → ¬ Owns p' x k := fun x hx h => h' ⟨x, hx, h⟩
      have hn : ∀ x, T x → ¬ Owns p x k := by
        intro x hx h
        rcases hold x k hx h with ⟨y, hy, hy'⟩ | h0
        · exact hn' y hy hy'
        · rw [hk] at h0; cases h0
      rw [hheap k hn hn'] at hk
      obtain ⟨y, hy⟩ := hI.noLeak k blk hk
      exact ⟨y, (Owns_of_eq hL (hobjs y (fun h => hn y h hy))).2 hy⟩

theorem Inv.congr (hI : Inv p) (hL : p'.L = p.L) (hobjs : ∀ x, p'.objs x = p.objs x)
    (hheap : ∀ k, p'.heap k = p.heap k) (hnext : p'.next = p.next) : Inv p' := by
  obtain ⟨L', objs', heap', next', _, _⟩ := p'
  obtain rfl : L' = p.L := hL
  obtain rfl : objs' = p.objs := funext hobjs
  obtain rfl : heap' = p.heap := funext hheap
  obtain rfl : next' = p.next := hnext
  exact ⟨hI.Lpos, hI.obj, hI.uniq, hI.noLeak, hI.bound⟩

theorem Inv.setFailAt (hI : Inv p) (f : Option Nat) : Inv { p with failAt := f } :=
  hI.congr (p' := { p with failAt := f }) rfl (fun _ => rfl) (fun _ => rfl) rfl

theorem Inv.same (hI : Inv p) (hL : p'.L = p.L) (hobjs : ∀ x, p'.objs x = p.objs x)
    (hheap : ∀ k, p'.heap k = p.heap k) (hnext : p'.next = p.next) (hF : p'.failAt = p.failAt) (T : Nat → Prop) :
    Succ p p' T :=
  ⟨hI.congr hL hobjs hheap hnext, hL, hF, fun x _ => hobjs x, fun x _ => view_frame hI (hobjs x) (fun k _ => hheap k)⟩

theorem _root_.StVerif.Pool.Succ.refl' {p : Pool} (hI : Inv p) (T : Nat → Prop) : Succ p p T :=
  hI.same rfl (fun _ => rfl) (fun _ => rfl) rfl rfl T

/-- the state after a failed `new` -/
theorem Inv.succ_allocs (hI : Inv p) (T : Nat → Prop) : Succ p { p with allocs := p.allocs + 1 } T :=
  hI.same (p' := { p with allocs := p.allocs + 1 }) rfl (fun _ => rfl) (fun _ => rfl) rfl rfl T

def Released (p : Pool) (o : Nat) (h' : Nat → Option (List Nat)) : Prop :=
  (∀ k, Owns p o k → h' k = none) ∧ ∀ k, ¬ Owns p o k → h' k = p.heap k

theorem NotOwning.released (h : NotOwning p o) : Released p o p.heap :=
  ⟨fun k hk => absurd hk (h.not_owns k), fun _ _ => rfl⟩

theorem Owns.released (h : Owns p o k) : Released p o (upd p.heap k none) :=
  ⟨fun _ hk' => hk'.inj h ▸ upd_same _ _ _, fun _ hk' => upd_other _ _ (fun e => hk' (e ▸ h))⟩

theorem Inv.set_local (hI : Inv p) {nb : Option Buf} {h' : Nat → Option (List Nat)}
    (hr : Released p o h') (hb : ∀ b', nb = some b' → ShortOk p.L o b')
    (hp' : p' = { p with objs := upd p.objs o nb, heap := h' }) :
    Succ p p' (· = o) ∧ view p' o = nb.map (fun b' => (b'.size, b'.data.take b'.size)) := by
  subst hp'
  have hself : upd p.objs o nb o = nb := upd_same _ _ _
  refine ⟨hI.frame (· = o) rfl rfl (fun x hx => upd_other _ _ hx)
    (fun x b hx hxb => by subst hx; exact (hb b (hself.symm.trans hxb)).objOk _)
    (fun x y _ hx hy _ _ => hx.trans hy.symm)
    (by
      rintro x k hx ⟨b, h1, h2, _⟩
      subst hx; exact absurd (hb b (hself.symm.trans h1)).size (Nat.not_lt_of_le h2))
    (fun x k hx h => by subst hx; exact Or.inr (hr.1 k h))
    (fun k hn _ => hr.2 k (hn o rfl))
    (fun k blk hk => by
      have hno : ¬ Owns p o k := fun h => nomatch (hr.1 k h).symm.trans hk
      exact hI.bound k blk ((hr.2 k hno).symm.trans hk)), ?_⟩
  cases nb with
  | none => simp [view]
  | some b' => exact view_short hself (hb b' rfl).chars

theorem Inv.set_short (hI : Inv p) {b' : Buf} (ho : NotOwning p o) (hb : ShortOk p.L o b')
    (hp' : p' = { p with objs := upd p.objs o (some b') }) :
    Succ p p' (· = o) ∧ view p' o = some (b'.size, b'.data.take b'.size) :=
  hI.set_local ho.released (fun _ h => Option.some.inj h ▸ hb) hp'

theorem Inv.fresh (hI : Inv p) {d vs : List Nat} (ho : NotOwning p o) (hn : p.L ≤ n)
    (hd : d.length = p.L) (hvs : vs.length = n)
    (hp' : p' = { p with objs := upd p.objs o (some ⟨.heap p.next, n, d⟩), heap := upd p.heap p.next (some (vs ++ [0])),
                         next := p.next + 1, allocs := p.allocs + 1 }) :
    Succ p p' (· = o) ∧ view p' o = some (n, vs) := by
  subst hp'
  have hself : upd p.objs o (some ⟨.heap p.next, n, d⟩) o = some ⟨.heap p.next, n, d⟩ := upd_same _ _ _
  refine ⟨hI.frame (· = o) rfl rfl (fun x hx => upd_other _ _ hx)
    (fun x b hx hxb => by
      subst hx; cases hself.symm.trans hxb
      exact ⟨hd, fun h => absurd hn (Nat.not_le_of_lt h), fun _ => ⟨p.next, vs ++ [0], rfl, upd_same _ _ _,
        hvs ▸ List.length_append, hvs ▸ List.getElem?_concat_length⟩⟩)
    (fun x y _ hx hy _ _ => hx.trans hy.symm)
    (fun x k hx h => by
      subst hx; exact Or.inr (Ptr.heap.inj ((owns_iff hself).1 h).2 ▸ hI.heap_fresh (Nat.le_refl _)))
    (fun x k hx h => by subst hx; exact absurd h (ho.not_owns k))
    (fun k _ hn' => upd_other _ _ (fun e => hn' o rfl ((owns_iff hself).2 ⟨hn, by rw [e]⟩)))
    (fun k blk hk => by
      by_cases e : k = p.next
      · exact e ▸ Nat.lt_succ_self _
      · exact Nat.lt_succ_of_lt (hI.bound k blk ((upd_other _ _ e).symm.trans hk))), ?_⟩
  rw [view_long hself rfl (upd_same _ _ _), List.take_left' hvs]

def TakesOver (p : Pool) (x : Nat) (b' : Buf) (s : Nat) : Prop :=
  ObjOk p.L p.heap x b' ∧ ∀ k, (p.L ≤ b'.size ∧ b'.chars = .heap k) ↔ Owns p s k

theorem ShortOk.takesOver {s : Nat} {b' : Buf} (hb : ShortOk p.L x b') (hs : NotOwning p s) : TakesOver p x b' s :=
  ⟨hb.objOk _, fun k => ⟨fun h => absurd h.1 (Nat.not_le_of_lt hb.size), fun h => absurd h (hs.not_owns k)⟩⟩

theorem Inv.exchange (hI : Inv p) {src : Nat} {bo' bs' : Buf} (hne : o ≠ src)
    (h₁ : TakesOver p o bo' src) (h₂ : TakesOver p src bs' o)
    (hp' : p' = { p with objs := upd (upd p.objs src (some bs')) o (some bo') }) :
    Succ p p' (fun x => x = o ∨ x = src) := by
  have ho' : p'.objs o = some bo' := by rw [hp']; exact upd_same _ _ _
  have hs' : p'.objs src = some bs' := by rw [hp']; exact (upd_other _ _ (Ne.symm hne)).trans (upd_same _ _ _)
  have e₁ : ∀ k, Owns p' o k ↔ Owns p src k := fun k => (owns_iff ho').trans (by rw [hp']; exact h₁.2 k)
  have e₂ : ∀ k, Owns p' src k ↔ Owns p o k := fun k => (owns_iff hs').trans (by rw [hp']; exact h₂.2 k)
  subst hp'
  refine hI.frame _ rfl rfl
    (fun x hx => (upd_other _ _ (fun e => hx (Or.inl e))).trans (upd_other _ _ (fun e => hx (Or.inr e))))
    (fun x b hx hxb => by
      rcases hx with rfl | rfl
      · cases ho'.symm.trans hxb; exact h₁.1
      · cases hs'.symm.trans hxb; exact h₂.1)
    (fun x y k hx hy hxk hyk => by
      rcases hx with rfl | rfl <;> rcases hy with rfl | rfl
      · rfl
      · exact hI.uniq _ _ k ((e₂ k).1 hyk) ((e₁ k).1 hxk)
      · exact hI.uniq _ _ k ((e₁ k).1 hyk) ((e₂ k).1 hxk)
      · rfl)
    (fun x k hx h => by
      rcases hx with rfl | rfl
      · exact Or.inl ⟨src, Or.inr rfl, (e₁ k).1 h⟩
      · exact Or.inl ⟨o, Or.inl rfl, (e₂ k).1 h⟩)
    (fun x k hx h => by
      rcases hx with rfl | rfl
      · exact Or.inl ⟨src, Or.inr rfl, (e₂ k).2 h⟩
      · exact Or.inl ⟨o, Or.inl rfl, (e₁ k).2 h⟩)
    (fun _ _ _ => rfl) hI.bound

/-- buffer `b` as object `x` holds it after a move: `m_chars` is re-pointed at `x`'s own array when short -/
def rehome (L x : Nat) (b : Buf) : Buf := { chars := if L ≤ b.size then b.chars else .loc x, size := b.size, data := b.data }

theorem rehome_short {L : Nat} (h : b.size < L) : rehome L x b = ⟨.loc x, b.size, b.data⟩ := by
  rw [rehome, if_neg (Nat.not_le_of_lt h)]

theorem rehome_long {L : Nat} (h : L ≤ b.size) : rehome L x b = b := by
  rw [rehome, if_pos h]

theorem Inv.rehome_self (hI : Inv p) (ho : p.objs o = some b) : rehome p.L o b = b := by
  by_cases hs : b.size < p.L
  · rw [rehome_short hs, ← (hI.short_chars ho hs).1]
  · exact rehome_long (Nat.le_of_not_lt hs)

theorem Inv.rehome_takesOver (hI : Inv p) {s : Nat} (hb : p.objs s = some b) (x : Nat) :
    TakesOver p x (rehome p.L x b) s := by
  by_cases hs : b.size < p.L
  · rw [rehome_short hs]
    exact ShortOk.takesOver ⟨(hI.obj s b hb).len, hs, rfl, (hI.short_chars hb hs).2.1⟩ (notOwning_of_short hb hs)
  · rw [rehome_long (Nat.le_of_not_lt hs)]
    exact ⟨⟨(hI.obj s b hb).len, fun h => absurd h hs, (hI.obj s b hb).long⟩, fun k => (owns_iff hb).symm⟩

theorem Inv.view_rehome (hI : Inv p) {s : Nat} (hb : p.objs s = some b)
    (hx : p'.objs x = some (rehome p.L x b)) (hheap : p'.heap = p.heap) : view p' x = view p s := by
  rcases hI.storage hb with ⟨hs, hc, _⟩ | ⟨hl, k, blk, hc, hblk, _⟩
  · rw [rehome_short hs] at hx
    rw [view_short hx rfl, view_short hb hc]
  · rw [rehome_long hl] at hx
    rw [view_long hx hc (hheap ▸ hblk), view_long hb hc hblk]

theorem Inv.transfer {p p' : Pool} (hI : Inv p) {o src k : Nat} {bs bo' bs' : Buf} (hL : p'.L = p.L)
    (hne : o ≠ src) (ho : NotOwning p o) (hsrc : p.objs src = some bs) (hsl : p.L ≤ bs.size) (hsc : bs.chars = .heap k)
    (ho' : p'.objs o = some bo') (hs' : p'.objs src = some bs')
    (hoth : ∀ x, x ≠ o → x ≠ src → p'.objs x = p.objs x)
    (hheap : ∀ k, p'.heap k = p.heap k) (hnext : p'.next = p.next)
    (hc : bo'.chars = .heap k) (hsz : bo'.size = bs.size) (hd : bo'.data.length = p.L)
    (hb : ShortOk p.L src bs') (hF : p'.failAt = p.failAt) :
    Succ p p' (fun x => x = o ∨ x = src) ∧ view p' o = view p src ∧
      view p' src = some (bs'.size, bs'.data.take bs'.size) := by
  have hown : Owns p src k := ⟨bs, hsrc, hsl, hsc⟩
  obtain ⟨_, blk, hc', hblk, hlen, hterm, _⟩ := hI.owner_block hsrc hsl
  cases hsc.symm.trans hc'
  rw [← hsz] at hsl hlen hterm
  have h₁ : TakesOver p o bo' src :=
    ⟨⟨hd, fun h => absurd hsl (Nat.not_le_of_lt h), fun _ => ⟨k, blk, hc, hblk, hlen, hterm⟩⟩,
     fun k' => ⟨fun h => Ptr.heap.inj (hc.symm.trans h.2) ▸ hown, fun h => ⟨hsl, by rw [hc, h.inj hown]⟩⟩⟩
  have hS := hI.exchange hne h₁ (hb.takesOver ho) rfl
  -- `p'` is that state, pointwise
  have hE := hS.inv.same (p' := p') hL (fun x => by
      by_cases e₁ : x = o
      · rw [e₁, ho']; exact (upd_same _ _ _).symm
      · by_cases e₂ : x = src
        · rw [e₂, hs']; exact ((upd_other _ _ (Ne.symm hne)).trans (upd_same _ _ _)).symm
        · rw [hoth x e₁ e₂]; exact ((upd_other _ _ e₁).trans (upd_other _ _ e₂)).symm)
    hheap hnext hF (fun x => x = o ∨ x = src)
  refine ⟨hS.trans hE, ?_, view_short hs' hb.chars⟩
  rw [view_long ho' hc (by rw [hheap]; exact hblk), view_long hsrc hsc hblk, hsz]

theorem Inv.write_long (hI : Inv p) {blk' : List Nat}
    (hobj : p.objs o = some b) (hl : p.L ≤ b.size) (hc : b.chars = .heap k)
    (hlen : blk'.length = b.size + 1) (hterm : blk'[b.size]? = some 0)
    (hp' : p' = { p with heap := upd p.heap k (some blk') }) :
    Succ p p' (· = o) ∧ view p' o = some (b.size, blk'.take b.size) := by
  subst hp'
  have hown : Owns p o k := ⟨b, hobj, hl, hc⟩
  obtain ⟨_, blk, hc', hblk, _⟩ := hI.owner_block hobj hl
  cases hc.symm.trans hc'
  refine ⟨hI.frame (· = o) rfl rfl (fun _ _ => rfl)
    (fun x b0 hx hxb => by
      subst hx; cases hobj.symm.trans hxb
      exact ⟨(hI.obj _ _ hobj).len, fun h => absurd hl (Nat.not_le_of_lt h), fun _ => ⟨k, blk', hc, upd_same _ _ _, hlen, hterm⟩⟩)
    (fun x y _ hx hy _ _ => hx.trans hy.symm)
    (fun x k' hx h => Or.inl ⟨x, hx, h⟩)
    (fun x k' hx h => Or.inl ⟨x, hx, h⟩)
    (fun k' hn _ => upd_other _ _ (fun e => hn o rfl (e ▸ hown)))
    (fun k' blk0 hk0 => by
      by_cases e : k' = k
      · exact e ▸ hI.bound k blk hblk
      · exact hI.bound k' blk0 ((upd_other _ _ e).symm.trans hk0)), view_long hobj hc (upd_same _ _ _)⟩

end StVerif.Pool
