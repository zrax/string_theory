/-
  Vocabulary of the pool machine's theorems (C04, C05, C18, C19, C20) that is not part of the model itself:
  function update, the invariant `Inv` with its parts, the abstraction `view` (size and elements an object
  reports) and the frame relation `Succ` between a state and its successor.
-/
import StVerif.Model.Pool

namespace StVerif.Pool

def upd {α : Type} (f : Nat → α) (i : Nat) (v : α) : Nat → α := fun x => if x = i then v else f x

/-- per-object part of the invariant -/
structure ObjOk (L : Nat) (heap : Nat → Option (List Nat)) (o : Nat) (b : Buf) : Prop where
  len : b.data.length = L
  short : b.size < L → b.chars = .loc o ∧ b.data[b.size]? = some 0
  long : L ≤ b.size → ∃ k blk, b.chars = .heap k ∧ heap k = some blk ∧ blk.length = b.size + 1 ∧ blk[b.size]? = some 0

def Owns (p : Pool) (o k : Nat) : Prop := ∃ b, p.objs o = some b ∧ p.L ≤ b.size ∧ b.chars = .heap k

/-- C05's invariant -/
structure Inv (p : Pool) : Prop where
  Lpos : 0 < p.L
  obj : ∀ o b, p.objs o = some b → ObjOk p.L p.heap o b
  uniq : ∀ o₁ o₂ k, Owns p o₁ k → Owns p o₂ k → o₁ = o₂
  noLeak : ∀ k blk, p.heap k = some blk → ∃ o, Owns p o k
  bound : ∀ k blk, p.heap k = some blk → k < p.next

def NotOwning (p : Pool) (o : Nat) : Prop := ∀ b, p.objs o = some b → b.size < p.L

structure ShortOk (L : Nat) (o : Nat) (b : Buf) : Prop where
  len : b.data.length = L
  size : b.size < L
  chars : b.chars = .loc o
  term : b.data[b.size]? = some 0

/-- `data()[0 .. size)` -/
def units (p : Pool) (b : Buf) : List Nat :=
  match b.chars with
  | .loc o' => match p.objs o' with | some b' => b'.data.take b.size | none => []
  | .heap k => match p.heap k with | some blk => blk.take b.size | none => []

/-- `(size(), data()[0 .. size))` of a live object -/
def view (p : Pool) (o : Nat) : Option (Nat × List Nat) := (p.objs o).map fun b => (b.size, units p b)

/-- what every operation guarantees about its successor state; `T` is the set of its operands -/
structure Succ (p p' : Pool) (T : Nat → Prop) : Prop where
  inv : Inv p'
  L : p'.L = p.L
  failAt : p'.failAt = p.failAt
  objs : ∀ x, ¬ T x → p'.objs x = p.objs x
  view : ∀ x, ¬ T x → view p' x = view p x

end StVerif.Pool
