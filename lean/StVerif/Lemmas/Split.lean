/-
  Helper lemmas for C09: the search the loops perform is `firstOcc`; facts about the specified
  pieces; the split loop computes them (for every piece constructor) and comes back; `tokenize`
  and its Spec; the two scans of `replace`.
-/
import StVerif.Model.Split
import StVerif.Spec.Split
import StVerif.Lemmas.SliceSep
import StVerif.Lemmas.Outcome
import StVerif.Lemmas.UtfString

namespace StVerif.Lemmas.Split
open StVerif.Split StVerif.Search StVerif.Spec.Search StVerif.Lemmas.SearchSpec
open StVerif.Lemmas.Slice (firstOcc_some firstOcc_bound firstOcc_fold firstOcc_nil_sep firstOcc_eq_findSub)
open StVerif.Spec.Slice (firstOcc)
open StVerif.Spec.Split (splitAux split join fields tokens Runs occurrences)
open StVerif.Slice (inSet cBytes)
open StVerif.Lemmas.Fmt (Sat)

theorem findRaw_eq_firstOcc (cs : CaseMode) (hay needle : List Nat) (hne : needle ≠ []) :
    findRaw cs hay needle = firstOcc cs hay needle := by
  rw [firstOcc_eq_findSub]
  cases needle with
  | nil => exact absurd rfl hne
  | cons a b => rfl

theorem scanChar_eq_firstOcc (cs : CaseMode) (c : Nat) (hay : List Nat) :
    scanChar cs c hay 0 = firstOcc cs hay [c] := by
  rw [StVerif.Lemmas.Find.scanChar_eq_findSub, firstOcc_eq_findSub]

theorem firstOcc_nil (cs : CaseMode) (pat : List Nat) : firstOcc cs [] pat = none := by
  rw [firstOcc_eq_findSub]; exact StVerif.Lemmas.Find.findSub_nil_hay cs pat

theorem splitAux_hit (cs : CaseMode) (pat : List Nat) (fuel max : Nat) (s : List Nat) (i : Nat) (hm : max ≠ 0)
    (h : firstOcc cs s pat = some i) :
    splitAux cs pat (fuel + 1) max s = s.take i :: splitAux cs pat fuel (max - 1) (s.drop (i + pat.length)) := by
  rw [splitAux, if_neg hm, h]

theorem splitAux_miss (cs : CaseMode) (pat : List Nat) (fuel max : Nat) (s : List Nat)
    (h : max = 0 ∨ firstOcc cs s pat = none) : splitAux cs pat (fuel + 1) max s = [s] := by
  rw [splitAux]
  rcases h with h | h
  · rw [if_pos h]
  · split
    · rfl
    · rw [h]

theorem split_nil_sep (cs : CaseMode) (max : Nat) (s : List Nat) : split cs [] max s = [s] :=
  splitAux_miss cs [] s.length max s (Or.inr (firstOcc_nil_sep cs s))

theorem splitAux_ne_nil (cs : CaseMode) (sep : List Nat) (fuel max : Nat) (s : List Nat) :
    splitAux cs sep fuel max s ≠ [] := by
  fun_induction splitAux cs sep fuel max s <;> simp

theorem splitAux_length_le (cs : CaseMode) (sep : List Nat) (fuel max : Nat) (s : List Nat) :
    (splitAux cs sep fuel max s).length ≤ max + 1 := by
  fun_induction splitAux cs sep fuel max s
  -- no fuel, `max = 0`, no occurrence: the text stays whole
  case case1 | case2 | case3 => simp
  -- a hit while `max ≠ 0`: the cut
  case case4 ih => rw [List.length_cons]; omega

theorem splitAux_forall {P : List Nat → Prop} (cs : CaseMode) (sep : List Nat)
    (cut : ∀ s i, P s → firstOcc cs s sep = some i → P (s.take i) ∧ P (s.drop (i + sep.length)))
    (fuel max : Nat) (s : List Nat) (hs : P s) : ∀ p ∈ splitAux cs sep fuel max s, P p := by
  fun_induction splitAux cs sep fuel max s
  -- no fuel, `max = 0`, no occurrence: the text stays whole
  case case1 | case2 | case3 => simpa using hs
  -- a hit while `max ≠ 0`: the cut
  case case4 s _ i hocc ih => exact List.forall_mem_cons.2 ⟨(cut s i hs hocc).1, ih (cut s i hs hocc).2⟩

theorem pieces_length_le (cs : CaseMode) (sep : List Nat) (fuel max : Nat) (s : List Nat) :
    ∀ p ∈ splitAux cs sep fuel max s, p.length ≤ s.length :=
  splitAux_forall (P := fun p => p.length ≤ s.length) cs sep
    (fun r i hr _ => ⟨Nat.le_trans (List.length_take_le' ..) hr,
      Nat.le_trans (by rw [List.length_drop]; exact Nat.sub_le ..) hr⟩) fuel max s (Nat.le_refl _)

theorem join_single (sep a : List Nat) : join sep [a] = a := List.intercalate_singleton

theorem join_cons_of_ne_nil (sep a : List Nat) (t : List (List Nat)) (ht : t ≠ []) :
    join sep (a :: t) = a ++ sep ++ join sep t := List.intercalate_cons_of_ne_nil ht

theorem join_splitAux (sep : List Nat) (fuel max : Nat) (s : List Nat) :
    join sep (splitAux .sensitive sep fuel max s) = s := by
  fun_induction splitAux .sensitive sep fuel max s
  -- no fuel, `max = 0`, no occurrence: the text stays whole
  case case1 | case2 | case3 => exact join_single sep _
  -- a hit while `max ≠ 0`: the cut
  case case4 s _ i hocc ih =>
    rw [join_cons_of_ne_nil _ _ _ (splitAux_ne_nil _ _ _ _ _), ih]
    exact ((StVerif.Lemmas.Slice.reassemble_at (firstOcc_some hocc).2.1).2.2 rfl)

theorem splitAux_fuel (cs : CaseMode) (sep : List Nat) (f1 f2 max : Nat) (s : List Nat)
    (h1 : s.length < f1) (h2 : s.length < f2) : splitAux cs sep f1 max s = splitAux cs sep f2 max s := by
  induction f1 generalizing f2 max s with
  | zero => nomatch h1
  | succ f1 ih =>
    cases f2 with
    | zero => nomatch h2
    | succ f2 =>
      by_cases hm : max = 0
      · rw [splitAux_miss cs sep f1 max s (Or.inl hm), splitAux_miss cs sep f2 max s (Or.inl hm)]
      · cases h : firstOcc cs s sep with
        | none => rw [splitAux_miss cs sep f1 max s (Or.inr h), splitAux_miss cs sep f2 max s (Or.inr h)]
        | some i =>
          obtain ⟨_, _, hlt⟩ := firstOcc_bound h
          rw [splitAux_hit cs sep f1 max s i hm h, splitAux_hit cs sep f2 max s i hm h,
            ih f2 (max - 1) _ (Nat.lt_of_lt_of_le hlt (Nat.le_of_lt_succ h1))
              (Nat.lt_of_lt_of_le hlt (Nat.le_of_lt_succ h2))]

theorem splitAux_fold (sep : List Nat) (fuel max : Nat) (s : List Nat) :
    (splitAux .insensitive sep fuel max s).map (·.map foldAscii) =
      splitAux .sensitive (sep.map foldAscii) fuel max (s.map foldAscii) := by
  fun_induction splitAux .insensitive sep fuel max s
  -- no fuel
  case case1 => rfl
  -- `max = 0`
  case case2 => rw [splitAux_miss _ _ _ _ _ (Or.inl rfl)]; rfl
  -- no occurrence
  case case3 hnone => rw [splitAux_miss _ _ _ _ _ (Or.inr (firstOcc_fold _ sep ▸ hnone))]; rfl
  -- a hit while `max ≠ 0`: the cut
  case case4 hmax i hocc ih =>
    rw [splitAux_hit _ _ _ _ _ i hmax (firstOcc_fold _ sep ▸ hocc), List.map_cons, ih,
      List.map_take, List.map_drop, List.length_map]

/-- constructing every piece in order (`emplace_back` after `emplace_back`) -/
def mkAll (mk : List Nat → Outcome (List Nat)) : List (List Nat) → Outcome (List (List Nat))
  | [] => .ok []
  | p :: ps => (mk p).bind fun q => (mkAll mk ps).bind fun qs => .ok (q :: qs)

theorem mkAll_of_all_ok (mk : List Nat → Outcome (List Nat)) (ps : List (List Nat)) (h : ∀ p ∈ ps, mk p = .ok p) :
    mkAll mk ps = .ok ps := by
  induction ps with
  | nil => rfl
  | cons p ps ih =>
    simp only [mkAll, h p (by simp), Outcome.bind]
    rw [ih (fun q hq => h q (by simp [hq]))]

theorem mkAll_ok (ps : List (List Nat)) : mkAll .ok ps = .ok ps := mkAll_of_all_ok .ok ps fun _ _ => rfl

/-- `Sat` with trivial conditions: the call comes back (with a value, an exception or an assertion); it neither
    spins nor reads outside. -/
theorem mkAll_returns (mk : List Nat → Outcome (List Nat))
    (h : ∀ p, Sat (fun _ => True) (fun _ => True) (fun _ => True) (mk p)) (ps : List (List Nat)) :
    Sat (fun _ => True) (fun _ => True) (fun _ => True) (mkAll mk ps) := by
  induction ps with
  | nil => trivial
  | cons p ps ih => exact (h p).bind fun q _ => ih.bind fun qs _ => trivial

theorem splitLoop_eq (cs : CaseMode) (sep : List Nat) (mk : List Nat → Outcome (List Nat))
    (find : List Nat → Option Nat) (hfind : ∀ r, find r = firstOcc cs r sep)
    (fuel max : Nat) (rest : List Nat) (acc : List (List Nat)) (hf : rest.length < fuel) :
    splitLoop find sep.length mk fuel max rest acc =
      (mkAll mk (splitAux cs sep fuel max rest)).bind fun ps => .ok (acc ++ ps) := by
  induction fuel generalizing max rest acc with
  | zero => nomatch hf
  | succ fuel ih =>
    unfold splitLoop
    simp only [hfind]
    by_cases hm : max = 0
    · rw [if_pos hm, splitAux_miss cs sep fuel max rest (Or.inl hm), mkAll, Outcome.bind_assoc]; rfl
    · rw [if_neg hm]
      cases h : firstOcc cs rest sep with
      | none => rw [splitAux_miss cs sep fuel max rest (Or.inr h), mkAll, Outcome.bind_assoc]; rfl
      | some i =>
        obtain ⟨h0, hle, hlt⟩ := firstOcc_bound h
        rw [splitAux_hit cs sep fuel max rest i hm h, mkAll, Outcome.bind_assoc]
        simp only []
        -- both sides construct the piece in front of the hit first
        congr 1; funext p
        rw [if_neg h0, if_neg (Nat.not_lt.2 hle), ih (max - 1) _ _ (Nat.lt_of_lt_of_le hlt (Nat.le_of_lt_succ hf)),
          Outcome.bind_assoc]
        simp only [Outcome.bind, List.append_assoc, List.singleton_append]

theorem splitLoop_run (cs : CaseMode) (sep : List Nat) (mk : List Nat → Outcome (List Nat))
    (find : List Nat → Option Nat) (hfind : ∀ r, find r = firstOcc cs r sep) (max : Nat) (s : List Nat) :
    splitLoop find sep.length mk (s.length + 1) max s [] = mkAll mk (split cs sep max s) := by
  rw [splitLoop_eq cs sep mk find hfind _ max s [] (Nat.lt_succ_self _)]
  exact Outcome.bind_ok _

theorem splitCstr_eq (cs : CaseMode) (s p : List Nat) (max : Nat) :
    splitCstr cs s (some p) max =
      if cBytes p = [] then .ok [s]
      else mkAll (fun piece => Utf.stringSetUtf8 (splitterValidation (cBytes p)) (some piece)) (split cs (cBytes p) max s) := by
  unfold splitCstr
  simp only [List.isEmpty_iff]
  split
  · rfl
  · next hne => exact splitLoop_run cs (cBytes p) _ _ (fun r => findRaw_eq_firstOcc cs r _ hne) max s

theorem splitCstr_returns (cs : CaseMode) (s p : List Nat) (max : Nat) :
    Sat (fun _ => True) (fun _ => True) (fun _ => True) (splitCstr cs s (some p) max) := by
  rw [splitCstr_eq]
  split
  · trivial
  · exact mkAll_returns _ (fun q => (Lemmas.Utf.stringSet_sat _ q).mono (fun _ _ => trivial) (fun _ _ => trivial) (fun _ _ => trivial)) _

theorem fields_eq_splitOnP (p : Nat → Bool) (s : List Nat) : fields p s = s.splitOnP p := by
  induction s with
  | nil => rfl
  | cons c rest ih =>
    rw [fields, List.splitOnP_cons_eq_if_modifyHead, ih]
    obtain ⟨f, fs, h⟩ := List.exists_cons_of_ne_nil (List.splitOnP_ne_nil p rest)
    rw [h]; rfl

theorem tokens_nil (d : List Nat) : tokens d [] = [] := by simp [tokens, fields]

theorem tokens_cons_delim (d : List Nat) (c : Nat) (rest : List Nat) (hc : d.contains c = true) :
    tokens d (c :: rest) = tokens d rest := by
  unfold tokens
  rw [fields, if_pos hc]
  rfl

theorem tokens_append_delims (d g x : List Nat) (hg : ∀ c ∈ g, d.contains c = true) :
    tokens d (g ++ x) = tokens d x := by
  induction g with
  | nil => rfl
  | cons c g ih =>
    rw [List.cons_append, tokens_cons_delim d c _ (hg c (by simp)), ih fun c hc => hg c (by simp [hc])]

theorem tokens_run_append (d tok r1 : List Nat) (hne : tok ≠ []) (ht : ∀ c ∈ tok, d.contains c = false)
    (hr : r1 = [] ∨ ∃ c r, r1 = c :: r ∧ d.contains c = true) :
    tokens d (tok ++ r1) = tok :: tokens d r1 := by
  have hk : (!tok.isEmpty) = true := by simpa using hne
  rcases hr with rfl | ⟨c, r, rfl, hc⟩
  · rw [List.append_nil, tokens_nil, tokens, fields_eq_splitOnP, List.splitOnP_eq_singleton ht, List.filter_cons, if_pos hk]; rfl
  · rw [tokens_cons_delim d c r hc, tokens, tokens, fields_eq_splitOnP, fields_eq_splitOnP,
      List.splitOnP_append_cons_of_forall_mem ht c hc, List.filter_cons, if_pos hk]

theorem dropWhile_head (p : Nat → Bool) (s : List Nat) :
    s.dropWhile p = [] ∨ ∃ c r, s.dropWhile p = c :: r ∧ p c = false := by
  induction s with
  | nil => exact Or.inl rfl
  | cons a rest ih =>
    rw [List.dropWhile_cons]
    by_cases h : p a = true
    · rw [if_pos h]; exact ih
    · rw [if_neg h]; exact Or.inr ⟨a, rest, rfl, by simpa using h⟩

theorem tokens_dropWhile_delim (d s : List Nat) : tokens d (s.dropWhile (inSet d)) = tokens d s := by
  conv => rhs; rw [← List.takeWhile_append_dropWhile (p := inSet d) (l := s)]
  exact (tokens_append_delims d _ _ (takeWhile_all (inSet d) s)).symm

theorem span_nondelim (d s : List Nat) :
    (∀ c ∈ s.takeWhile (fun c => !inSet d c), d.contains c = false) ∧
    (s.dropWhile (fun c => !inSet d c) = [] ∨ ∃ c r, s.dropWhile (fun c => !inSet d c) = c :: r ∧ d.contains c = true) := by
  refine ⟨fun c hc => by simpa [inSet] using takeWhile_all _ s c hc, ?_⟩
  rcases dropWhile_head (fun c => !inSet d c) s with h | ⟨c, r, h, hc⟩
  · exact Or.inl h
  · exact Or.inr ⟨c, r, h, by simpa [inSet] using hc⟩

theorem tokens_span (d s : List Nat) (hne : s.takeWhile (fun c => !inSet d c) ≠ []) :
    tokens d s = s.takeWhile (fun c => !inSet d c) :: tokens d (s.dropWhile (fun c => !inSet d c)) := by
  conv => lhs; rw [← List.takeWhile_append_dropWhile (p := fun c => !inSet d c) (l := s)]
  exact tokens_run_append d _ _ hne (span_nondelim d s).1 (span_nondelim d s).2

/-- one round of the outer loop of `tokenize`, on the Spec side -/
theorem tokens_round (d rest : List Nat) :
    tokens d rest =
      (if (rest.takeWhile fun c => !inSet d c).isEmpty then [] else [rest.takeWhile fun c => !inSet d c]) ++
        tokens d ((rest.dropWhile fun c => !inSet d c).dropWhile (inSet d)) := by
  rw [tokens_dropWhile_delim]
  by_cases htk : (rest.takeWhile fun c => !inSet d c).isEmpty = true
  · have h := List.takeWhile_append_dropWhile (p := fun c => !inSet d c) (l := rest)
    rw [List.isEmpty_iff.1 htk, List.nil_append] at h
    rw [if_pos htk, List.nil_append, h]
  · rw [if_neg htk]
    exact tokens_span d rest fun h => htk (by rw [h]; rfl)

theorem round_progress (d rest : List Nat) (hne : rest ≠ []) :
    ((rest.dropWhile fun c => !inSet d c).dropWhile (inSet d)).length < rest.length := by
  cases rest with
  | nil => exact absurd rfl hne
  | cons c r =>
    have h1 := length_dropWhile_le (inSet d) r
    have h2 := length_dropWhile_le (fun c => !inSet d c) r
    have h3 := length_dropWhile_le (inSet d) (r.dropWhile fun c => !inSet d c)
    rw [List.dropWhile_cons]
    by_cases hc : inSet d c = true
    · -- a delimiter in front is not part of a token; the second walk skips it
      rw [if_neg (by simp [hc]), List.dropWhile_cons, if_pos hc, List.length_cons]; omega
    · rw [if_pos (by simp [hc]), List.length_cons]; omega

theorem tokLoop_eq (d : List Nat) (fuel : Nat) (rest : List Nat) (acc : List (List Nat)) (hf : rest.length < fuel) :
    tokLoop d fuel rest acc = .ok (acc ++ tokens d rest) := by
  induction fuel generalizing rest acc with
  | zero => nomatch hf
  | succ fuel ih =>
    unfold tokLoop
    by_cases he : rest.isEmpty = true
    · rw [if_pos he, List.isEmpty_iff.1 he, tokens_nil, List.append_nil]
    · rw [if_neg he]
      have hlt := round_progress d rest fun h => he (by rw [h]; rfl)
      simp only []
      rw [if_pos hlt, ih _ _ (by omega), tokens_round d rest]
      split <;> simp

theorem tokens_runs_aux (d : List Nat) (n : Nat) (s : List Nat) (hn : s.length ≤ n) :
    Runs (d.contains ·) s (tokens d s) := by
  induction n generalizing s with
  | zero =>
    rw [List.eq_nil_of_length_eq_zero (Nat.le_zero.1 hn), tokens_nil]
    exact Runs.done [] (by simp)
  | succ n ih =>
    -- the gap in front, then `s'`: the text from the first non-delimiter on
    have hg : ∀ c ∈ s.takeWhile (inSet d), d.contains c = true := takeWhile_all (inSet d) s
    have hsplit := List.takeWhile_append_dropWhile (p := inSet d) (l := s)
    have hlen := congrArg List.length hsplit
    rw [← tokens_dropWhile_delim d s]
    rcases dropWhile_head (inSet d) s with h1 | ⟨c1, r1, h1, hc1⟩
    · rw [h1, tokens_nil]
      rw [h1, List.append_nil] at hsplit
      rw [← hsplit]
      exact Runs.done _ hg
    · generalize s.dropWhile (inSet d) = s' at *
      have htne : s'.takeWhile (fun c => !inSet d c) ≠ [] := by
        rw [h1, List.takeWhile_cons, if_pos (by simpa using hc1)]; simp
      have hs2 := List.takeWhile_append_dropWhile (p := fun c => !inSet d c) (l := s')
      have hlen2 := congrArg List.length hs2
      rw [List.length_append] at hlen hlen2
      have hrec := ih (s'.dropWhile fun c => !inSet d c) (by have := List.length_pos_iff.2 htne; omega)
      have := Runs.tok _ _ _ _ hg htne (span_nondelim d s').1 (span_nondelim d s').2 hrec
      rwa [List.append_assoc, hs2, hsplit, ← tokens_span d s' htne] at this

theorem tokens_runs (d s : List Nat) : Runs (d.contains ·) s (tokens d s) := tokens_runs_aux d s.length s (Nat.le_refl _)

theorem runs_eq_tokens (d s : List Nat) (ts : List (List Nat)) (h : Runs (d.contains ·) s ts) : ts = tokens d s := by
  induction h with
  | done g hg =>
    have := tokens_append_delims d g [] hg
    rw [List.append_nil, tokens_nil] at this
    exact this.symm
  | tok g t rest ts hg hne ht hr _ ih =>
    rw [List.append_assoc, tokens_append_delims d g _ hg, tokens_run_append d t rest hne ht hr, ← ih]

theorem runs_token {p : Nat → Bool} {s : List Nat} {ts : List (List Nat)} (h : Runs p s ts) :
    ∀ t ∈ ts, t ≠ [] ∧ ∀ c ∈ t, p c = false := by
  induction h with
  | done g hg => simp
  | tok g t rest ts hg hne ht hr _ ih => exact List.forall_mem_cons.2 ⟨⟨hne, ht⟩, ih⟩

theorem tokens_nonempty (d s : List Nat) : ∀ t ∈ tokens d s, t ≠ [] :=
  fun t ht => (runs_token (tokens_runs d s) t ht).1

theorem tokens_no_delim (d s : List Nat) : ∀ t ∈ tokens d s, ∀ c ∈ t, d.contains c = false :=
  fun t ht => (runs_token (tokens_runs d s) t ht).2

def cuts (cs : CaseMode) (pat : List Nat) (fuel max : Nat) (s : List Nat) : Nat := (splitAux cs pat fuel max s).length - 1

theorem cuts_zero_of_max (cs : CaseMode) (pat : List Nat) (fuel : Nat) (s : List Nat) : cuts cs pat fuel 0 s = 0 := by
  cases fuel <;> simp [cuts, splitAux]

theorem cuts_miss (cs : CaseMode) (pat : List Nat) (fuel max : Nat) (s : List Nat)
    (h : max = 0 ∨ firstOcc cs s pat = none) : cuts cs pat (fuel + 1) max s = 0 := by
  rw [cuts, splitAux_miss cs pat fuel max s h]; rfl

theorem cuts_hit (cs : CaseMode) (pat : List Nat) (fuel max : Nat) (s : List Nat) (i : Nat) (hm : max ≠ 0)
    (h : firstOcc cs s pat = some i) :
    cuts cs pat (fuel + 1) max s = cuts cs pat fuel (max - 1) (s.drop (i + pat.length)) + 1 := by
  unfold cuts
  rw [splitAux_hit cs pat fuel max s i hm h, List.length_cons, Nat.add_sub_cancel,
    Nat.sub_add_cancel (List.length_pos_iff.2 (splitAux_ne_nil _ _ _ _ _))]

theorem copyLoop_eq (cs : CaseMode) (pat to : List Nat) (hne : pat ≠ []) (fuel max : Nat) (rest out : List Nat)
    (hf : rest.length < fuel) (hm : rest.length ≤ max) :
    copyLoop cs pat to fuel rest out = .ok (out ++ join to (splitAux cs pat fuel max rest)) := by
  induction fuel generalizing max rest out with
  | zero => nomatch hf
  | succ fuel ih =>
    unfold copyLoop
    rw [findRaw_eq_firstOcc cs rest pat hne]
    cases h : firstOcc cs rest pat with
    | none => rw [splitAux_miss cs pat fuel max rest (Or.inr h), join_single]
    | some i =>
      obtain ⟨h0, hle, hlt⟩ := firstOcc_bound h
      simp only []
      have hmax := Nat.lt_of_lt_of_le hlt hm
      rw [if_neg h0, if_neg (Nat.not_lt.2 hle),
        ih (max - 1) _ _ (Nat.lt_of_lt_of_le hlt (Nat.le_of_lt_succ hf)) (Nat.le_sub_one_of_lt hmax),
        splitAux_hit cs pat fuel max rest i (by omega) h, join_cons_of_ne_nil _ _ _ (splitAux_ne_nil _ _ _ _ _)]
      simp only [List.append_assoc]

/-- On every path, the guarded ones included: both scans search the same rests, and each hit changes the size by
    `|to| - |pat|`. -/
theorem countLoop_eq_copyLoop (cs : CaseMode) (pat to : List Nat) (fuel : Nat) (rest out : List Nat) :
    countLoop cs pat ((to.length : Int) - (pat.length : Int)) fuel rest (wrap64 ((out.length + rest.length : Nat) : Int)) =
      (copyLoop cs pat to fuel rest out).map fun o => wrap64 (o.length : Int) := by
  induction fuel generalizing rest out with
  | zero => rfl
  | succ fuel ih =>
    unfold countLoop copyLoop
    cases findRaw cs rest pat with
    | none => simp only [Outcome.map, List.length_append]
    | some i =>
      simp only []
      by_cases h0 : i + pat.length = 0
      · rw [if_pos h0, if_pos h0]; rfl
      · by_cases h1 : i + pat.length > rest.length
        · rw [if_neg h0, if_neg h0, if_pos h1, if_pos h1]; rfl
        · rw [if_neg h0, if_neg h0, if_neg h1, if_neg h1, ← ih, wrap64_add_wrap64]
          congr 2
          simp only [List.length_append, List.length_drop, List.length_take_of_le (Nat.le_of_add_right_le (Nat.not_lt.1 h1))]
          omega

theorem join_length_single (to a : List Nat) : (join to [a]).length = a.length := by rw [join_single]

theorem join_splitAux_length (cs : CaseMode) (pat to : List Nat) (fuel max : Nat) (s : List Nat) :
    ((join to (splitAux cs pat fuel max s)).length : Int) =
      (s.length : Int) + (cuts cs pat fuel max s : Int) * ((to.length : Int) - (pat.length : Int)) := by
  induction fuel generalizing max s with
  | zero => simp [splitAux, cuts, join_single]
  | succ fuel ih =>
    by_cases hm : max = 0 ∨ firstOcc cs s pat = none
    · rw [splitAux_miss cs pat fuel max s hm, cuts_miss cs pat fuel max s hm, join_single]; simp
    · cases h : firstOcc cs s pat with
      | none => exact absurd (Or.inr h) hm
      | some i =>
        obtain ⟨_, hle, _⟩ := firstOcc_bound h
        have hm0 : max ≠ 0 := fun e => hm (Or.inl e)
        rw [splitAux_hit cs pat fuel max s i hm0 h, join_cons_of_ne_nil _ _ _ (splitAux_ne_nil _ _ _ _ _),
          cuts_hit cs pat fuel max s i hm0 h]
        simp only [List.length_append, List.length_take, Int.natCast_add, Int.natCast_one]
        rw [ih (max - 1) (s.drop (i + pat.length)), Int.add_mul, Int.one_mul, List.length_drop,
          Nat.min_eq_left (Nat.le_of_add_right_le hle), Int.ofNat_sub hle, Int.natCast_add]
        omega

theorem occurrences_eq (cs : CaseMode) (pat s : List Nat) :
    occurrences cs pat s = cuts cs pat (s.length + 1) s.length s := rfl

theorem replaceScans_eq (cs : CaseMode) (s pat to : List Nat) (hs64 : s.length < 2^64)
    (hfit : (Spec.Split.replace cs pat to s).length < 2^64) :
    replaceScans cs s pat to = .ok ⟨Spec.Split.replace cs pat to s, (Spec.Split.replace cs pat to s).length⟩ := by
  unfold replaceScans
  by_cases he : s.isEmpty = true ∨ pat.isEmpty = true
  · rw [if_pos he]
    have : Spec.Split.replace cs pat to s = s := by
      rcases he with h | h
      · rw [List.isEmpty_iff.1 h]; rfl
      · rw [List.isEmpty_iff.1 h]
        exact (congrArg (join to) (split_nil_sep cs s.length s)).trans (join_single to s)
    rw [this]
  · rw [if_neg he]
    have hp : pat ≠ [] := fun h => he (Or.inr (by rw [h]; rfl))
    have hcopy : copyLoop cs pat to (s.length + 1) s [] = .ok (Spec.Split.replace cs pat to s) :=
      (copyLoop_eq cs pat to hp (s.length + 1) s.length s [] (Nat.lt_succ_self _) (Nat.le_refl _)).trans
        (congrArg _ (List.nil_append _))
    simp only []
    have hsize : (if pat.length ≠ to.length then
          countLoop cs pat ((to.length : Int) - (pat.length : Int)) (s.length + 1) s s.length
        else Outcome.ok s.length) = .ok (Spec.Split.replace cs pat to s).length := by
      split
      · have hc := countLoop_eq_copyLoop cs pat to (s.length + 1) s []
        rw [hcopy, List.length_nil, Nat.zero_add, wrap64_nat _ hs64] at hc
        rw [hc, Outcome.map, wrap64_nat _ hfit]
      · next hd =>
        have hlen : ((Spec.Split.replace cs pat to s).length : Int) = _ :=
          join_splitAux_length cs pat to (s.length + 1) s.length s
        rw [← Decidable.not_not.1 hd, Int.sub_self, Int.mul_zero, Int.add_zero] at hlen
        rw [Int.ofNat_inj.1 hlen]
    rw [hsize, hcopy]
    simp only [Outcome.bind]
    rw [if_neg (Nat.lt_irrefl _), if_neg (Nat.lt_irrefl _)]

end StVerif.Lemmas.Split
