/-
  Facts about Spec/Digits.lean alone: `digits` is the canonical representation and the only one; the
  declarative parser reads canonical text back (`parseSpec_intText`); the numeral it finds lies inside
  the text; what saturation does to values that fit.
-/
import StVerif.Spec.Digits
import StVerif.Lemmas.ListFacts

namespace StVerif.Lemmas.Digits
open StVerif.Spec.Digits

theorem rev_ind {α : Type} {P : List α → Prop} (nil : P []) (snoc : ∀ xs x, P xs → P (xs ++ [x])) (l : List α) : P l := by
  rw [← List.reverse_reverse l]
  induction l.reverse with
  | nil => exact nil
  | cons a r ih => rw [List.reverse_cons]; exact snoc _ _ ih

theorem ofDigits_nil (b : Nat) : ofDigits b [] = 0 := rfl

theorem ofDigits_append (b : Nat) (ds : List Nat) (d : Nat) : ofDigits b (ds ++ [d]) = ofDigits b ds * b + d := by
  simp [ofDigits, List.foldl_append]

theorem ofDigits_single (b d : Nat) : ofDigits b [d] = d := by simp [ofDigits]

theorem digits_small (b n : Nat) (h : n < b ∨ b < 2) : digits b n = [n] := by
  rw [digits, dif_pos h]

theorem digits_step (b n : Nat) (hb : 2 ≤ b) (h : b ≤ n) : digits b n = digits b (n / b) ++ [n % b] := by
  rw [digits, dif_neg (by omega)]

theorem digits_ne_nil (b n : Nat) : digits b n ≠ [] := by
  rw [digits]; split <;> simp

theorem digits_zero (b : Nat) : digits b 0 = [0] := digits_small b 0 (by omega)

theorem digits_canonical (b : Nat) (hb : 2 ≤ b) (n : Nat) : Canonical b n (digits b n) := by
  induction n using digits.induct b with
  -- `n < b ∨ b < 2`: the single digit `[n]`
  | case1 n hsmall =>
    rw [digits_small b n hsmall]
    exact ⟨by simpa using hsmall.resolve_right (Nat.not_lt.mpr hb), ofDigits_single b n, by simp, by simp⟩
  -- otherwise: the digits of `n / b`, then `n % b`
  | case2 n hbig ih =>
    have hge : b ≤ n := by omega
    have hb0 := Nat.zero_lt_of_lt hb
    rw [digits_step b n hb hge]
    refine ⟨?_, ?_, by simp, ?_⟩
    · intro d hd
      rcases List.mem_append.mp hd with h1 | h1
      · exact ih.lt_base d h1
      · rw [List.mem_singleton.mp h1]; exact Nat.mod_lt _ hb0
    · rw [ofDigits_append, ih.value, Nat.mul_comm]
      exact Nat.div_add_mod n b
    · -- a leading zero would be one of `n / b`, which then is 0
      intro hh
      obtain ⟨x, xs, hx⟩ := List.exists_cons_of_ne_nil ih.nonempty
      have hv := ih.value
      rw [ih.no_leading_zero (by rw [hx] at hh ⊢; exact hh), ofDigits_single] at hv
      exact absurd hv (Nat.ne_of_lt (Nat.div_pos hge hb0))

theorem digits_lt_base (b : Nat) (hb : 2 ≤ b) (n : Nat) : ∀ d ∈ digits b n, d < b := (digits_canonical b hb n).lt_base
theorem ofDigits_digits (b : Nat) (hb : 2 ≤ b) (n : Nat) : ofDigits b (digits b n) = n := (digits_canonical b hb n).value

theorem horner_ge (b : Nat) (hb : 1 ≤ b) : ∀ (ds : List Nat) (i : Nat), i ≤ ds.foldl (fun acc d => acc * b + d) i := by
  intro ds
  induction ds with
  | nil => intro i; exact Nat.le_refl i
  | cons d ds ih =>
    intro i
    exact Nat.le_trans (Nat.le_trans (Nat.le_mul_of_pos_right i hb) (Nat.le_add_right _ _)) (ih _)

theorem ofDigits_pos (b : Nat) (hb : 1 ≤ b) (x : Nat) (xs : List Nat) (hx : x ≠ 0) : 0 < ofDigits b (x :: xs) :=
  Nat.lt_of_lt_of_le (show 0 < 0 * b + x by omega) (horner_ge b hb xs (0 * b + x))

theorem digits_mul_add (b : Nat) (hb : 2 ≤ b) (m d : Nat) (hm : 0 < m) (hd : d < b) :
    digits b (m * b + d) = digits b m ++ [d] := by
  have hge : b ≤ m * b + d := Nat.le_trans (Nat.le_mul_of_pos_left b hm) (Nat.le_add_right _ _)
  rw [digits_step b _ hb hge, Nat.mul_comm, Nat.mul_add_div (Nat.zero_lt_of_lt hb), Nat.div_eq_of_lt hd, Nat.add_zero,
    Nat.mul_add_mod, Nat.mod_eq_of_lt hd]

theorem canonical_unique (b : Nat) (hb : 2 ≤ b) (n : Nat) (ds : List Nat) (c : Canonical b n ds) : ds = digits b n := by
  induction ds using rev_ind generalizing n with
  | nil => exact absurd rfl c.nonempty
  | snoc xs d ih =>
    have hd : d < b := c.lt_base d (by simp)
    rw [← c.value, ofDigits_append]
    cases xs with
    | nil => rw [ofDigits_nil, Nat.zero_mul, Nat.zero_add, digits_small b d (Or.inl hd)]; rfl
    | cons x xs' =>
      have hx0 : x ≠ 0 := fun hx => by simpa using c.no_leading_zero (by simp [hx])
      have cx : Canonical b (ofDigits b (x :: xs')) (x :: xs') :=
        ⟨fun e he => c.lt_base e (List.mem_append_left _ he), rfl, List.cons_ne_nil _ _,
         fun hh => absurd (by simpa using hh) hx0⟩
      rw [digits_mul_add b hb _ d (ofDigits_pos b (Nat.le_of_lt hb) x xs' hx0) hd, ← ih _ cx]

theorem canonical_iff (b : Nat) (hb : 2 ≤ b) (n : Nat) (ds : List Nat) : Canonical b n ds ↔ ds = digits b n :=
  ⟨canonical_unique b hb n ds, fun h => h ▸ digits_canonical b hb n⟩

/-- the form the backwards-filling loop produces -/
def digits0 (b n : Nat) : List Nat := if n = 0 then [] else digits b n

theorem digits0_of_ne {b n : Nat} (h : n ≠ 0) : digits0 b n = digits b n := if_neg h

theorem digits0_step (b : Nat) (hb : 2 ≤ b) (n : Nat) (hn : n ≠ 0) : digits0 b n = digits0 b (n / b) ++ [n % b] := by
  unfold digits0
  rw [if_neg hn]
  by_cases h : n < b
  · rw [digits_small b n (Or.inl h), if_pos (Nat.div_eq_of_lt h), Nat.mod_eq_of_lt h]; rfl
  · have h := Nat.le_of_not_lt h
    rw [if_neg (Nat.ne_of_gt (Nat.div_pos h (Nat.zero_lt_of_lt hb))), digits_step b n hb h]

theorem digits0_lt_base (b : Nat) (hb : 2 ≤ b) (n : Nat) : ∀ d ∈ digits0 b n, d < b := by
  unfold digits0; split
  · simp
  · exact digits_lt_base b hb n

theorem digits_length_le (b : Nat) (hb : 2 ≤ b) (k n : Nat) (hk : 0 < k) (hn : n < b ^ k) : (digits b n).length ≤ k := by
  induction n using digits.induct b generalizing k with
  -- `n < b ∨ b < 2`: the single digit `[n]`
  | case1 n hsmall => rw [digits_small b n hsmall]; exact hk
  -- otherwise: the digits of `n / b`, then `n % b`
  | case2 n hbig ih =>
    obtain ⟨k, rfl⟩ : ∃ k', k = k' + 1 := ⟨k - 1, (Nat.sub_add_cancel hk).symm⟩
    rw [Nat.pow_succ] at hn
    have hge : b ≤ n := by omega
    have hk' : 0 < k := Nat.pos_of_ne_zero (by rintro rfl; rw [Nat.pow_zero, Nat.one_mul] at hn; exact Nat.not_lt.mpr hge hn)
    rw [digits_step b n hb hge, List.length_append]
    exact Nat.succ_le_succ (ih k hk' ((Nat.div_lt_iff_lt_mul (Nat.zero_lt_of_lt hb)).mpr hn))

theorem digits_length_le_of_lt_two_pow (b : Nat) (hb : 2 ≤ b) (w n : Nat) (hw : 0 < w) (hn : n < 2 ^ w) :
    (digits b n).length ≤ w :=
  digits_length_le b hb w n hw (Nat.lt_of_lt_of_le hn (Nat.pow_le_pow_left hb w))

theorem digitVal_digitChar (upper : Bool) : ∀ d, d < 36 → digitVal (digitChar upper d) = some d := by
  cases upper <;> decide +kernel

theorem digitChar_ge (upper : Bool) (d : Nat) : 48 ≤ digitChar upper d := by
  unfold digitChar
  split
  · exact Nat.le_add_right 48 d
  · split <;> exact Nat.le_trans (by decide) (Nat.le_add_right _ d)

theorem natText_ne_nil (b : Nat) (upper : Bool) (n : Nat) : natText b upper n ≠ [] := by
  unfold natText; simp [digits_ne_nil]

theorem natText_length_le {b : Nat} (hb : 2 ≤ b) (upper : Bool) {w n : Nat} (hw : 0 < w) (hn : n < 2 ^ w) :
    (natText b upper n).length ≤ w :=
  (List.length_map (digitChar upper)).symm ▸ digits_length_le_of_lt_two_pow b hb w n hw hn

theorem natText_ge (b : Nat) (upper : Bool) (n : Nat) : ∀ c ∈ natText b upper n, 48 ≤ c := by
  intro c hc
  obtain ⟨d, _, rfl⟩ := List.mem_map.mp hc
  exact digitChar_ge upper d

theorem intText_neg {b : Nat} {upper : Bool} {v : Int} (h : v < 0) : intText b upper v = 45 :: natText b upper v.natAbs := by
  unfold intText; rw [if_pos h]; rfl

theorem intText_nonneg {b : Nat} {upper : Bool} {v : Int} (h : 0 ≤ v) : intText b upper v = natText b upper v.natAbs := by
  unfold intText; rw [if_neg (Int.not_lt.mpr h)]; rfl

theorem intText_ne_nil (b : Nat) (upper : Bool) (v : Int) : intText b upper v ≠ [] := by
  unfold intText
  simp [natText_ne_nil]

theorem intText_no_nul (b : Nat) (upper : Bool) (v : Int) : ∀ c ∈ intText b upper v, c ≠ 0 := by
  intro c hc
  unfold intText at hc
  rcases List.mem_append.mp hc with h | h
  · split at h
    · rw [List.mem_singleton.mp h]; decide
    · exact absurd h (List.not_mem_nil)
  · exact Nat.ne_of_gt (Nat.lt_of_lt_of_le (by decide) (natText_ge b upper _ c h))

theorem isDigitOf_natText (b : Nat) (hb : 2 ≤ b) (hb36 : b ≤ 36) (upper : Bool) (n : Nat) :
    ∀ c ∈ natText b upper n, isDigitOf b c = true := by
  intro c hc
  obtain ⟨d, hd, rfl⟩ := List.mem_map.mp hc
  have hlt := digits_lt_base b hb n d hd
  unfold isDigitOf
  rw [digitVal_digitChar upper d (Nat.lt_of_lt_of_le hlt hb36)]
  exact decide_eq_true hlt

theorem runValue_natText (b : Nat) (hb : 2 ≤ b) (hb36 : b ≤ 36) (upper : Bool) (n : Nat) :
    runValue b (natText b upper n) = n := by
  unfold runValue natText
  rw [List.map_map, List.map_congr_left (g := id), List.map_id, ofDigits_digits b hb n]
  intro d hd
  have hlt := digits_lt_base b hb n d hd
  show (digitVal (digitChar upper d)).getD 0 = d
  rw [digitVal_digitChar upper d (Nat.lt_of_lt_of_le hlt hb36)]; rfl

/-- `x` and `X` stand for the digit 33: no digit of base 16 or below -/
theorem isX_not_digit (x : Nat) (h : isX x = true) (b : Nat) (hb : b ≤ 33) : isDigitOf b x = false := by
  unfold isX at h
  rcases (by simpa using h : x = 120 ∨ x = 88) with rfl | rfl <;> exact decide_eq_false (Nat.not_lt.mpr hb)

theorem hasHexPrefix_elim {base : Nat} {r : List Nat} (h : hasHexPrefix base r = true) :
    (base = 0 ∨ base = 16) ∧ ∃ x d t, r = 48 :: x :: d :: t ∧ isX x = true ∧ isDigitOf 16 d = true := by
  unfold hasHexPrefix at h
  rw [Bool.and_eq_true] at h
  obtain ⟨hb, hm⟩ := h
  split at hm
  · next x d t =>
    rw [Bool.and_eq_true] at hm
    exact ⟨by simpa using hb, x, d, t, rfl, hm.1, hm.2⟩
  · exact absurd hm (by decide)

theorem numeralBody_natText (b : Nat) (hb : 2 ≤ b) (hb36 : b ≤ 36) (upper : Bool) (n : Nat) :
    numeralBody b (natText b upper n) = some (n, (natText b upper n).length) := by
  have hall := isDigitOf_natText b hb hb36 upper n
  have hhex : hasHexPrefix b (natText b upper n) = false := by
    apply Bool.eq_false_iff.mpr
    intro h
    obtain ⟨hb16, x, d, t, heq, hx, _⟩ := hasHexPrefix_elim h
    -- base 16 and an `x` among the digits: but `x` is no hexadecimal digit
    have := hall x (by rw [heq]; simp)
    rw [isX_not_digit x hx b (by omega)] at this
    exact absurd this (by decide)
  have heb : effectiveBase b (natText b upper n) = b := by
    unfold effectiveBase; rw [if_pos (by simpa using Nat.ne_zero_of_lt hb)]
  unfold numeralBody
  simp only [hhex, heb, Bool.false_eq_true, if_false]
  rw [takeWhile_eq_self hall, runValue_natText b hb hb36, if_neg (by simpa using natText_ne_nil b upper n), Nat.zero_add]

theorem signOf_of_ge {c : Nat} (h : 48 ≤ c) (t : List Nat) : signOf (c :: t) = (false, 0) := by
  unfold signOf
  split
  · next heq => have := (List.cons.inj heq).1; omega
  · next heq => have := (List.cons.inj heq).1; omega
  · rfl

theorem isSpace_of_ge {c : Nat} (h : 33 ≤ c) : isSpace c = false := by
  unfold isSpace; simp; omega

theorem parseCore_intText (b : Nat) (hb : 2 ≤ b) (hb36 : b ≤ 36) (upper : Bool) (v : Int) :
    parseCore b (intText b upper v) =
      { negative := decide (v < 0), magnitude := v.natAbs, consumed := (intText b upper v).length } := by
  have hbody := numeralBody_natText b hb hb36 upper v.natAbs
  unfold parseCore
  by_cases hneg : v < 0
  · rw [intText_neg hneg, List.takeWhile_cons_of_neg (by decide)]
    show (match numeralBody b (natText b upper v.natAbs) with | none => _ | some (m, k) => _) = _
    rw [hbody, decide_eq_true hneg, List.length_cons]
    show Numeral.mk true _ (0 + 1 + _) = _
    rw [Nat.zero_add, Nat.add_comm]
  · rw [intText_nonneg (Int.not_lt.mp hneg)]
    obtain ⟨c, t, hct⟩ := List.exists_cons_of_ne_nil (natText_ne_nil b upper v.natAbs)
    have hc : 48 ≤ c := natText_ge b upper v.natAbs c (by rw [hct]; simp)
    rw [hct] at hbody ⊢
    rw [List.takeWhile_cons_of_neg (by rw [isSpace_of_ge (Nat.le_trans (by decide) hc)]; decide)]
    simp only [List.length_nil, List.drop_zero, signOf_of_ge hc, hbody, Nat.zero_add, decide_eq_false hneg]

theorem parseSpec_intText (b : Nat) (hb : 2 ≤ b) (hb36 : b ≤ 36) (upper : Bool) (v : Int) :
    parseSpec b (intText b upper v) =
      { negative := decide (v < 0), magnitude := v.natAbs, consumed := (intText b upper v).length } := by
  unfold parseSpec
  rw [takeWhile_eq_self fun c hc => by simpa using intText_no_nul b upper v c hc]
  exact parseCore_intText b hb hb36 upper v

theorem numeralBody_le (base : Nat) (r : List Nat) (m k : Nat) (h : numeralBody base r = some (m, k)) : k ≤ r.length := by
  unfold numeralBody at h
  dsimp only at h
  generalize hrun : List.takeWhile _ _ = run at h
  have hl := hrun ▸
    length_takeWhile_le (isDigitOf (effectiveBase base r)) (if hasHexPrefix base r = true then r.drop 2 else r)
  cases hr : run.isEmpty
  · rw [hr] at h
    obtain ⟨_, rfl⟩ := Prod.mk.inj (Option.some.inj h)
    by_cases hhex : hasHexPrefix base r = true
    · obtain ⟨_, x, d, t, rfl, _⟩ := hasHexPrefix_elim hhex
      rw [if_pos hhex] at hl ⊢
      -- `hl` bounds the run by the length of `d :: t`, what follows the two characters `0x`
      rw [Nat.add_comm]
      exact Nat.succ_le_succ (Nat.succ_le_succ hl)
    · rw [if_neg hhex] at hl ⊢
      rwa [Nat.zero_add]
  · rw [hr] at h
    exact absurd h nofun

theorem signOf_le (r : List Nat) : (signOf r).2 ≤ r.length := by
  unfold signOf
  split <;> simp only [List.length_cons] <;> omega

theorem parseCore_consumed_le (base : Nat) (s : List Nat) : (parseCore base s).consumed ≤ s.length := by
  unfold parseCore
  dsimp only
  have hws := length_takeWhile_le isSpace s
  have hsg := signOf_le (s.drop (s.takeWhile isSpace).length)
  split
  · exact Nat.zero_le _
  · next m k h =>
    have := numeralBody_le base _ m k h
    rw [List.length_drop] at this hsg
    rw [List.length_drop] at this
    dsimp only; omega

theorem parseSpec_consumed_le (base : Nat) (s : List Nat) : (parseSpec base s).consumed ≤ s.length :=
  Nat.le_trans (parseCore_consumed_le base _) (length_takeWhile_le _ s)

theorem clampSigned_fits {w : Nat} {n : Numeral} {v : Int}
    (hv : (if n.negative then -(n.magnitude : Int) else n.magnitude) = v) (hlo : -(2 ^ (w - 1) : Int) ≤ v)
    (hhi : v < 2 ^ (w - 1)) : clampSigned w n = v := by
  unfold clampSigned
  dsimp only
  rw [hv, if_neg (Int.not_lt.mpr hlo), if_neg (Int.not_lt.mpr (Int.le_sub_one_of_lt hhi))]

theorem clampSigned_of_fits (w : Nat) (v : Int) (k : Nat) (hlo : -(2 ^ (w - 1) : Int) ≤ v) (hhi : v < 2 ^ (w - 1)) :
    clampSigned w { negative := decide (v < 0), magnitude := v.natAbs, consumed := k } = v := by
  refine clampSigned_fits ?_ hlo hhi
  by_cases h : v < 0
  · rw [if_pos (decide_eq_true h), Int.ofNat_natAbs_of_nonpos (Int.le_of_lt h), Int.neg_neg]
  · rw [if_neg (mt of_decide_eq_true h), Int.natAbs_of_nonneg (Int.not_lt.mp h)]

theorem clampUnsigned_of_fits (w : Nat) (v : Int) (k : Nat) (hlo : 0 ≤ v) (hhi : v.natAbs < 2 ^ w) :
    clampUnsigned w { negative := decide (v < 0), magnitude := v.natAbs, consumed := k } = v.natAbs := by
  unfold clampUnsigned
  dsimp only
  rw [if_neg (Nat.not_lt.mpr (Nat.le_sub_one_of_lt hhi)), if_neg (mt of_decide_eq_true (Int.not_lt.mpr hlo))]

theorem clampSigned_zero (w : Nat) (n : Numeral) (h : n.magnitude = 0) : clampSigned w n = 0 := by
  have hp := Int.pow_pos (n := 2) (m := w - 1) (by decide)
  refine clampSigned_fits ?_ (Int.neg_nonpos_of_nonneg (Int.le_of_lt hp)) hp
  rw [h]; split <;> rfl

theorem clampUnsigned_zero (w : Nat) (n : Numeral) (h : n.magnitude = 0) : clampUnsigned w n = 0 := by
  unfold clampUnsigned
  rw [h, if_neg (Nat.not_lt_zero _), Nat.sub_zero, Nat.mod_self, ite_self]

theorem clampSigned_range (w : Nat) (n : Numeral) :
    -(2 ^ (w - 1) : Int) ≤ clampSigned w n ∧ clampSigned w n < 2 ^ (w - 1) := by
  have := Int.pow_pos (n := 2) (m := w - 1) (by decide)
  unfold clampSigned
  dsimp only
  generalize (if n.negative = true then -(n.magnitude : Int) else n.magnitude) = v
  omega

theorem clampUnsigned_lt (w : Nat) (n : Numeral) : clampUnsigned w n < 2 ^ w := by
  have hp := Nat.two_pow_pos w
  have hm := Nat.sub_lt hp Nat.one_pos
  unfold clampUnsigned
  split
  · exact hm
  · next h =>
    split
    · exact Nat.mod_lt _ hp
    · exact Nat.lt_of_le_of_lt (Nat.le_of_not_lt h) hm
end StVerif.Lemmas.Digits
