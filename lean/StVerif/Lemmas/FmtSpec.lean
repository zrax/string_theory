/-
  C11, the formatters: each per-argument formatter of the model emits exactly the bytes the Spec's
  `renderField` prescribes.
-/
import StVerif.Lemmas.FmtRender
import StVerif.Spec.Render
import StVerif.Lemmas.Utf
import StVerif.Lemmas.UtfRef
import StVerif.Lemmas.MachineInt
import StVerif.Lemmas.Digits

namespace StVerif.Lemmas.Fmt
open StVerif.Fmt
open StVerif.Spec

theorem digitChar_eq_sym (d : Nat) (u : Bool) : digitChar d u = Render.digitSym d u := by
  unfold digitChar Render.digitSym
  by_cases h : d < 10
  · rw [if_pos h, if_pos h]
  · rw [if_neg h, if_neg h]
    -- `65 + d - 10 = 65 - 10 + d`, and the same with 97
    cases u <;> exact Nat.sub_add_comm (by decide)

theorem digits_lt {b n : Nat} (u : Bool) (h : n < b) : Render.digits b u n = [Render.digitSym n u] := by
  rw [Render.digits]; simp [h]

theorem digits_ge {b n : Nat} (u : Bool) (hb : 2 ≤ b) (h : b ≤ n) :
    Render.digits b u n = Render.digits b u (n / b) ++ [Render.digitSym (n % b) u] := by
  rw [Render.digits]; simp [show ¬(n < b ∨ b < 2) by omega]

theorem digits_ne_nil (b : Nat) (u : Bool) (n : Nat) : Render.digits b u n ≠ [] := by
  rw [Render.digits]; split <;> simp

theorem uintLoop_zero (r : Nat) (u : Bool) (acc : List Nat) : uintLoop r u 0 acc = acc := by
  rw [uintLoop, dif_pos (Or.inl rfl)]

theorem uintLoop_pos {r v : Nat} (u : Bool) (hr : 2 ≤ r) (hv : v ≠ 0) (acc : List Nat) :
    uintLoop r u v acc = uintLoop r u (v / r) (digitChar (v % r) u :: acc) := by
  rw [uintLoop, dif_neg (by omega)]

theorem uintLoop_eq (r : Nat) (u : Bool) (hr : 2 ≤ r) (v : Nat) (hv : v ≠ 0) (acc : List Nat) :
    uintLoop r u v acc = Render.digits r u v ++ acc := by
  induction v using Nat.strongRecOn generalizing acc with
  | _ v ih =>
    rw [uintLoop_pos u hr hv, digitChar_eq_sym]
    by_cases hlt : v < r
    · rw [Nat.div_eq_of_lt hlt, Nat.mod_eq_of_lt hlt, uintLoop_zero, digits_lt u hlt]; rfl
    · have hd : v / r ≠ 0 := fun h0 => hlt ((Nat.div_eq_zero_iff.mp h0).resolve_left (by omega))
      rw [ih (v / r) (Nat.div_lt_self (Nat.pos_of_ne_zero hv) hr) hd, digits_ge (n := v) u hr (Nat.le_of_not_lt hlt),
        List.append_assoc]
      rfl

theorem uintFormat_eq_digits (v r : Nat) (u : Bool) (hr : 2 ≤ r) : uintFormat v r u = Render.digits r u v := by
  unfold uintFormat
  split
  · rename_i hv; subst hv; rw [digits_lt u (show 0 < r by omega)]; rfl
  · rw [uintLoop_eq r u hr v ‹_›, List.append_nil]

theorem digits_eq_map (b : Nat) (u : Bool) (n : Nat) :
    Render.digits b u n = (Digits.digits b n).map (Render.digitSym · u) := by
  induction n using Nat.strongRecOn with
  | _ n ih =>
    rw [Render.digits, Digits.digits]
    split
    · rfl
    · rw [ih _ (Nat.div_lt_self (by omega) (by omega)), List.map_append]; rfl

/-- the fields of a `format_spec` are `int`s -/
def SpecInt (f : FormatSpec) : Prop :=
  (-(2 ^ 31 : Int) ≤ f.minimumLength ∧ f.minimumLength < 2 ^ 31) ∧
  (-(2 ^ 31 : Int) ≤ f.precision ∧ f.precision < 2 ^ 31) ∧
  (-(2 ^ 31 : Int) ≤ f.argIndex ∧ f.argIndex < 2 ^ 31)

theorem longToInt_range (v : Int) : -(2 ^ 31 : Int) ≤ longToInt v ∧ longToInt v < 2 ^ 31 := toI32_range _

theorem SpecInt.width {f : FormatSpec} (hf : SpecInt f) (v : Int) : SpecInt { f with minimumLength := longToInt v } :=
  ⟨longToInt_range v, hf.2⟩

theorem SpecInt.prec {f : FormatSpec} (hf : SpecInt f) (v : Int) : SpecInt { f with precision := longToInt v } :=
  ⟨hf.1, longToInt_range v, hf.2.2⟩

theorem SpecInt.arg {f : FormatSpec} (hf : SpecInt f) (v : Int) : SpecInt { f with argIndex := longToInt v } :=
  ⟨hf.1, hf.2.1, longToInt_range v⟩

def ntOf (v : Int) : NumType := if v = 0 then .zero else if v < 0 then .negative else .positive

theorem ntOf_negative (v : Int) : ntOf v = .negative ↔ v < 0 := by
  unfold ntOf
  split
  · simp; omega
  · split <;> simp [*]

theorem ntOf_zero (v : Int) : ntOf v = .zero ↔ v = 0 := by
  unfold ntOf
  split
  · simp [*]
  · split <;> simp [*]

theorem padOf_eq (f : FormatSpec) : padOf f = Render.padChar f := by
  unfold padOf Render.padChar; by_cases h : f.pad = 0 <;> simp [h]

theorem numericPrefix_flatten (f : FormatSpec) (v : Int) :
    flatten (numericPrefix f (ntOf v)) = Render.signOf f v ++ Render.prefixOf f v := by
  unfold numericPrefix Render.signOf Render.prefixOf
  simp only [flatten_append, ntOf_negative, ne_eq, ntOf_zero, and_comm (a := ¬v = 0), apply_ite flatten]
  cases f.digitClass <;> rfl

/-- an `int` width and a size below 2^32 keep the `int − size_t → ssize_t` subtraction of `pad_size` exact -/
theorem padSize_eq (f : FormatSpec) (hf : SpecInt f) (size : Nat) (hs : size < 2 ^ 32) (v : Int) :
    padSize f size (ntOf v) =
      (f.minimumLength - ((Render.signOf f v ++ Render.prefixOf f v).length + size : Nat)).toNat := by
  obtain ⟨⟨h1, h2⟩, -⟩ := hf
  have hpos : ∀ p : Int, (if p > 0 then p.toNat else 0) = p.toNat := fun p => by split <;> omega
  have hsign : ∀ p : Int,
      (if ntOf v = .negative ∨ f.alwaysSigned then p - 1 else p) = p - ((Render.signOf f v).length : Int) := by
    intro p
    unfold Render.signOf
    simp only [ntOf_negative]
    by_cases hv : v < 0
    · simp [hv]
    · cases f.alwaysSigned <;> simp [hv]
  unfold padSize
  simp only [toI64_wrap64 (f.minimumLength - size) (by omega) (by omega), hsign, hpos, List.length_append]
  generalize f.minimumLength = w
  generalize (Render.signOf f v).length = s
  -- the prefix comes off last on both sides, and they are compared before `toNat`
  rw [show ∀ k : Nat, w - ↑(s + k + size) = w - size - s - k by omega]
  unfold Render.prefixOf
  simp only [ne_eq, ntOf_zero, and_comm (a := ¬v = 0)]
  refine congrArg Int.toNat ?_
  split
  · cases f.digitClass <;> simp
  · simp

theorem formatNumericString_flatten (f : FormatSpec) (hf : SpecInt f) (text : List Nat) (ht : text.length < 2 ^ 32) (v : Int) :
    flatten (formatNumericString f text (ntOf v)) =
      if f.numericPad then
        (Render.signOf f v ++ Render.prefixOf f v) ++
          List.replicate (f.minimumLength - (((Render.signOf f v ++ Render.prefixOf f v) ++ text).length : Int)).toNat (Render.padChar f) ++ text
      else Render.padTo f.minimumLength (Render.sideOf f .right) (Render.padChar f) ((Render.signOf f v ++ Render.prefixOf f v) ++ text) := by
  unfold formatNumericString
  simp only [padSize_eq f hf text.length ht v, padOf_eq, List.length_append (bs := text)]
  cases f.numericPad with
  | true =>
    simp only [↓reduceIte, flatten_append, numericPrefix_flatten, flatten_cons, flatten_nil, Event.bytes, List.append_nil,
      List.append_assoc]
  | false =>
    unfold Render.padTo Render.sideOf
    cases f.alignment <;>
      simp [flatten_append, numericPrefix_flatten, List.append_assoc, Event.bytes, Int.add_assoc]

theorem radixOf_eq {c : DigitClass} (h : c ≠ .chr) : Fmt.radixOf c = some (Render.radixOf c) ∧ 2 ≤ (Render.radixOf c).1 := by
  cases c <;> simp [Fmt.radixOf, Render.radixOf] at h ⊢

theorem formatNumericS_eq (f : FormatSpec) (hf : SpecInt f) (v : Int) (hv : -(2 ^ 63 : Int) ≤ v ∧ v < 2 ^ 64)
    (hc : f.digitClass ≠ .chr) :
    (formatNumericS f v).map flatten = .ok (Render.renderInt f v) := by
  obtain ⟨hr, hr2⟩ := radixOf_eq hc
  have hlen := Lemmas.Digits.digits_length_le_of_lt_two_pow _ hr2 64 v.natAbs (by decide) (by omega)
  simp only [formatNumericS, hr, Outcome.map, uintFormat_eq_digits _ _ _ hr2]
  rw [← ntOf, formatNumericString_flatten f hf _ (by rw [digits_eq_map, List.length_map]; omega) v]
  rfl

theorem formatNumericU_eq (f : FormatSpec) (hf : SpecInt f) (v : Nat) (hv : v < 2 ^ 64) (hc : f.digitClass ≠ .chr) :
    (formatNumericU f v).map flatten = .ok (Render.renderInt f (v : Int)) := by
  rw [formatNumericU_eq_S f hc]
  exact formatNumericS_eq f hf v (by omega) hc

/-- the pad run in front or behind: `minimum_length - size` (an `int` width) is computed in `size_t`, exact when positive -/
theorem flatten_pad {w : Int} {body : List Nat} (h : w > body.length) (hw : w < 2 ^ 31) (c : Nat) :
    flatten [.appendChar c (wrap64 (w - body.length)), .append body] = Render.padTo w .right c body ∧
    flatten [.append body, .appendChar c (wrap64 (w - body.length))] = Render.padTo w .left c body := by
  rw [wrap64_of_nonneg (by omega) (by omega)]
  simp [Render.padTo, Event.bytes]

theorem flatten_unpadded {w : Int} {body : List Nat} (h : ¬w > body.length) (side : Render.Side) (c : Nat) :
    flatten [.append body] = Render.padTo w side c body := by
  have : (w - (body.length : Int)).toNat = 0 := by omega
  cases side <;> simp [Render.padTo, Event.bytes, this]

/-- the precision cut of `format_string` (the size compared in `size_t`) is the Spec's -/
theorem take_cut (f : FormatSpec) (hp : f.precision < 2 ^ 64) (text : List Nat) :
    text.take (if f.precision ≥ 0 ∧ text.length > wrap64 f.precision then wrap64 f.precision else text.length) =
      if f.precision ≥ 0 then text.take f.precision.toNat else text := by
  by_cases h0 : f.precision ≥ 0
  · rw [wrap64_of_nonneg h0 hp]
    simp only [h0, true_and, if_true]
    split
    · rfl
    · rw [List.take_of_length_le (Nat.le_refl _), List.take_of_length_le (by omega)]
  · simp [h0]

theorem formatString_flatten (f : FormatSpec) (hf : SpecInt f) (text : List Nat) (ht : text.length < 2 ^ 31) :
    flatten (formatString f text) = Render.renderText f text := by
  obtain ⟨⟨h1, h2⟩, ⟨h3, h4⟩, _⟩ := hf
  have htake := take_cut f (by omega) text
  unfold formatString Render.renderText
  simp only [padOf_eq]
  -- the size after the cut is the length of the text appended
  have hsize : (if f.precision ≥ 0 ∧ text.length > wrap64 f.precision then wrap64 f.precision else text.length) ≤ text.length := by
    split <;> omega
  generalize (if f.precision ≥ 0 ∧ text.length > wrap64 f.precision then wrap64 f.precision else text.length) = size
    at htake hsize ⊢
  have hlen : (text.take size).length = size := by rw [List.length_take, Nat.min_eq_left hsize]
  rw [htake] at hlen ⊢
  generalize (if f.precision ≥ 0 then text.take f.precision.toNat else text) = cut at hlen ⊢
  subst hlen
  rw [toI32_of_lt (Nat.lt_of_le_of_lt hsize ht)]
  unfold Render.sideOf
  by_cases hw : f.minimumLength > cut.length
  · rw [if_pos hw]
    have hpad := flatten_pad hw h2 (Render.padChar f)
    cases f.alignment with
    | dflt => exact hpad.2
    | left => exact hpad.2
    | right => exact hpad.1
  · rw [if_neg hw]
    exact flatten_unpadded hw _ _

theorem charPadding_same : charPaddingMsg = Render.charPaddingContract := rfl

/-- the character class on a value `v` that reaches `format_char` as `ch` (and `write_utf8` as the
    `char32_t` of `ch`) -/
theorem formatChar_flatten (f : FormatSpec) (ch v : Int)
    (hin : 0 ≤ v ∧ v ≤ 0x10FFFF → wrapW 32 ch = v.toNat)
    (hout : ¬(0 ≤ v ∧ v ≤ 0x10FFFF) → wrapW 32 ch > 0x10FFFF) :
    (formatChar f ch).map flatten =
      (if f.minimumLength ≠ 0 ∨ f.pad ≠ 0 then .assertFail Render.charPaddingContract else .ok (Render.renderChar v)) := by
  unfold formatChar Render.renderChar
  split
  · rfl
  · by_cases hv : 0 ≤ v ∧ v ≤ 0x10FFFF
    · rw [hin hv, StVerif.Lemmas.Utf.writeUtf8_eq _ (by omega)]
      simp [hv, Outcome.map, Event.bytes]
    · rw [StVerif.Lemmas.Utf.writeUtf8_none _ (hout hv)]
      simp [hv, Outcome.map, Event.bytes, Generated.badcharSubstituteUtf8]

theorem formatFloat_flatten (f : FormatSpec) (hf : SpecInt f) (r : Bool → Option Nat → FloatClass → List Nat)
    (hfl : (Arg.float r).LibcRenders) : (formatFloat f r).map flatten = .ok (Render.renderFloat f r) := by
  obtain ⟨⟨h1, h2⟩, _⟩ := hf
  have h := hfl f.alwaysSigned (if f.precision ≥ 0 then some f.precision.toNat else none) f.floatClass
  unfold formatFloat Render.renderFloat
  simp only [padOf_eq]
  generalize r f.alwaysSigned (if f.precision ≥ 0 then some f.precision.toNat else none) f.floatClass = text at h ⊢
  rw [if_neg (Nat.ne_of_gt h)]
  unfold Render.sideOf
  by_cases hw : f.minimumLength > text.length
  · rw [if_pos hw]
    have hpad := flatten_pad hw h2 (Render.padChar f)
    cases f.alignment with
    | dflt => exact congrArg Outcome.ok hpad.1
    | left => exact congrArg Outcome.ok hpad.2
    | right => exact congrArg Outcome.ok hpad.1
  · rw [if_neg hw]
    exact congrArg Outcome.ok (flatten_unpadded hw _ _)

theorem charCode_in {v : Int} (h : 0 ≤ v ∧ v ≤ 0x10FFFF) : wrapW 32 (charCode v) = v.toNat := by
  unfold charCode
  rw [wrap64_of_nonneg h.1 (by omega), if_neg (by omega), wrapW_of_nonneg h.1 (by omega)]

theorem charCode_out {v : Int} (hr : -(2 ^ 63 : Int) ≤ v ∧ v < 2 ^ 64) (h : ¬(0 ≤ v ∧ v ≤ 0x10FFFF)) :
    wrapW 32 (charCode v) > 0x10FFFF := by
  unfold charCode
  by_cases hneg : v < 0
  · rw [wrap64_of_neg hneg (by omega), if_pos (by omega)]; decide
  · rw [wrap64_of_nonneg (by omega) hr.2, if_pos (by omega)]; decide

theorem pow_bound {w : Nat} (hw : w = 8 ∨ w = 16 ∨ w = 32 ∨ w = 64) : (2 : Int) ^ (w - 1) ≤ 2 ^ 63 ∧ (2 : Nat) ^ w ≤ 2 ^ 64 := by
  rcases hw with rfl | rfl | rfl | rfl <;> decide

theorem formatType_eq_spec (a : Arg) (f : FormatSpec) (ha : a.InRange) (hf : SpecInt f) (hfl : a.LibcRenders) :
    (formatType a f).map flatten = Render.renderField f a := by
  have int : ∀ (ch v : Int) (num : Outcome (List Event)),
      (0 ≤ v ∧ v ≤ 0x10FFFF → wrapW 32 ch = v.toNat) → (¬(0 ≤ v ∧ v ≤ 0x10FFFF) → wrapW 32 ch > 0x10FFFF) →
      (f.digitClass ≠ .chr → num.map flatten = .ok (Render.renderInt f v)) →
      (if f.digitClass = .chr then formatChar f ch else num).map flatten =
        if f.digitClass = .chr then
          (if f.minimumLength ≠ 0 ∨ f.pad ≠ 0 then .assertFail Render.charPaddingContract else .ok (Render.renderChar v))
        else .ok (Render.renderInt f v) := by
    intro ch v num hin hout hnum
    by_cases hc : f.digitClass = .chr
    · rw [if_pos hc, if_pos hc]; exact formatChar_flatten f ch v hin hout
    · rw [if_neg hc, if_neg hc]; exact hnum hc
  have hs := formatNumericS_eq f hf
  have hu := formatNumericU_eq f hf
  -- in model and Spec alike, `char` is formatted as `wchar_t` is and `char16_t` as `char32_t` is, each in a narrower range
  have wchar : ∀ v, (Arg.wchar v).InRange → (formatType (.wchar v) f).map flatten = Render.renderField f (.wchar v) := by
    rintro v ⟨h1, h2⟩
    refine int v v _ (fun h => wrapW_of_nonneg h.1 (by omega)) (fun h => ?_) (hs v (by omega))
    by_cases hneg : v < 0
    · rw [wrapW_of_neg hneg (by omega)]; omega
    · rw [wrapW_of_nonneg (by omega) (by omega)]; omega
  have char32 : ∀ v, (Arg.char32 v).InRange → (formatType (.char32 v) f).map flatten = Render.renderField f (.char32 v) := by
    intro v h1
    refine int _ v _ (fun _ => ?_) (fun h => ?_) (hu v (Nat.lt_trans h1 (by decide)))
    · rw [wrapW32_toI32 h1]; omega
    · rw [wrapW32_toI32 h1]; omega
  cases a with
  | sint w v =>
    obtain ⟨hw, h1, h2⟩ := ha
    have hb := (pow_bound hw).1
    exact int _ v _ charCode_in (charCode_out (by omega)) (hs v (by omega))
  | uint w v =>
    obtain ⟨hw, h1⟩ := ha
    have h64 := Nat.lt_of_lt_of_le h1 (pow_bound hw).2
    exact int _ v _ charCode_in (charCode_out (by omega)) (hu v h64)
  | char v =>
    obtain ⟨h1, h2⟩ := ha
    exact wchar v ⟨by omega, by omega⟩
  | wchar v => exact wchar v ha
  | char16 v => exact char32 v (Nat.lt_trans ha (by decide))
  | char32 v => exact char32 v ha
  | char8 v =>
    -- a UTF-8 code unit is copied as it is
    have h1 : v < 256 := ha
    simp only [formatType, Render.renderField]
    by_cases hc : f.digitClass = .chr
    · rw [if_pos hc, if_pos hc, apply_ite (Outcome.map flatten)]; rfl
    · rw [if_neg hc, if_neg hc]; exact hu v (by omega) hc
  | bool b =>
    simp only [formatType, Render.renderField, Outcome.map]
    rw [formatString_flatten f hf _ (by cases b <;> decide)]
  | str bs =>
    simp only [formatType, Render.renderField, Outcome.map]
    rw [formatString_flatten f hf _ ha]
  | nullStr => rfl
  | wide src m us =>
    simp only [formatType, Render.renderField, ← wide_stringFrom_eq ha]
    obtain ⟨hsrc, hlen⟩ := ha
    have hs : src = .utf16 ∨ src = .utf32 := hsrc.imp And.left And.left
    cases hc : Utf.stringFrom src m (some us) with
    | ok bs =>
      have hb : bs.length < 2 ^ 31 := by
        have := StVerif.Lemmas.Utf.convert_wide_utf8_length_le src hs _ _ us bs (by rcases hs with rfl | rfl <;> exact hc)
        have h28 : Generated.hugeBufferSize = 2 ^ 28 := by decide
        omega
      simp only [Outcome.bind, Outcome.map]
      rw [formatString_flatten f hf bs hb]
    | _ => rfl
  | float r => exact formatFloat_flatten f hf r hfl

end StVerif.Lemmas.Fmt
