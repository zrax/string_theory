/-
  Helper lemmas for the substring search core: characterisation of `findSub` (the model of
  `find_cs`/`find_ci`) by the Spec predicate `occursAt`.
-/
import StVerif.Model.Search
import StVerif.Lemmas.SearchSpec

namespace StVerif.Lemmas.Search
open StVerif.Search StVerif.Spec.Search StVerif.Lemmas.SearchSpec

theorem lower_eq_foldAscii (c : Nat) : lower c = foldAscii c := by
  unfold lower foldAscii
  simp only [show c - 0x41 < 26 ∧ 0x41 ≤ c ↔ 0x41 ≤ c ∧ c ≤ 0x5A by omega]

theorem lower_eq : lower = foldAscii := funext lower_eq_foldAscii

theorem eqv_sensitive (a b : Nat) : eqv .sensitive a b = true ↔ a = b := by
  simp [eqv]

theorem eqv_insensitive (a b : Nat) : eqv .insensitive a b = true ↔ foldAscii a = foldAscii b := by
  simp [eqv, lower_eq_foldAscii]

theorem eqv_iff_norm (cs : CaseMode) (a b : Nat) : eqv cs a b = true ↔ norm cs [a] = norm cs [b] := by
  cases cs <;> simp [eqv, norm, lower_eq_foldAscii]

theorem norm_nil (cs : CaseMode) : norm cs [] = [] := by cases cs <;> rfl

theorem norm_cons (cs : CaseMode) (a : Nat) (xs : List Nat) : norm cs (a :: xs) = norm cs [a] ++ norm cs xs := by
  cases cs <;> simp [norm]

theorem norm_length (cs : CaseMode) (xs : List Nat) : (norm cs xs).length = xs.length := by
  cases cs <;> simp [norm]

theorem norm_append (cs : CaseMode) (xs ys : List Nat) : norm cs (xs ++ ys) = norm cs xs ++ norm cs ys := by
  cases cs <;> simp [norm]

theorem norm_take (cs : CaseMode) (xs : List Nat) (n : Nat) : norm cs (xs.take n) = (norm cs xs).take n := by
  cases cs <;> simp [norm, List.map_take]

theorem norm_drop (cs : CaseMode) (xs : List Nat) (n : Nat) : norm cs (xs.drop n) = (norm cs xs).drop n := by
  cases cs <;> simp [norm, List.map_drop]

theorem norm_cons_eq (cs : CaseMode) (a b : Nat) (xs ys : List Nat) :
    norm cs (a :: xs) = norm cs (b :: ys) ↔ norm cs [a] = norm cs [b] ∧ norm cs xs = norm cs ys := by
  cases cs <;> simp [norm]

theorem prefixEq_iff (cs : CaseMode) (hay needle : List Nat) :
    prefixEq cs hay needle = true ↔
      needle.length ≤ hay.length ∧ norm cs (hay.take needle.length) = norm cs needle := by
  induction needle generalizing hay with
  | nil => simp [prefixEq, norm_nil]
  | cons n ns ih =>
    cases hay with
    | nil => simp [prefixEq]
    | cons h hs =>
      rw [List.length_cons, List.take_succ_cons, norm_cons_eq, ← eqv_iff_norm]
      simp only [prefixEq, Bool.and_eq_true, ih, List.length_cons, Nat.add_le_add_iff_right]
      rw [and_left_comm]

theorem occursAt_iff_prefixEq (cs : CaseMode) (hay needle : List Nat) (i : Nat) :
    occursAt cs hay needle i ↔
      i + needle.length ≤ hay.length ∧ prefixEq cs (hay.drop i) needle = true := by
  unfold occursAt window
  rw [prefixEq_iff]
  simp only [List.length_drop]
  constructor
  · rintro ⟨a, b⟩; exact ⟨a, by omega, b⟩
  · rintro ⟨a, _, b⟩; exact ⟨a, b⟩

theorem occursAt_cons_succ (cs : CaseMode) (h : Nat) (t needle : List Nat) (i : Nat) :
    occursAt cs (h :: t) needle (i + 1) ↔ occursAt cs t needle i := by
  simp only [occursAt, window, List.drop_succ_cons, List.length_cons, Nat.add_right_comm i 1, Nat.add_le_add_iff_right]

theorem occursAt_cons_zero (cs : CaseMode) (h : Nat) (t : List Nat) (n0 : Nat) (rest : List Nat) :
    occursAt cs (h :: t) (n0 :: rest) 0 ↔ eqv cs h n0 = true ∧ prefixEq cs t rest = true := by
  rw [occursAt_iff_prefixEq]
  simp only [List.drop_zero, prefixEq, Bool.and_eq_true, List.length_cons]
  constructor
  · rintro ⟨_, a⟩; exact a
  · rintro ⟨a, b⟩
    have := (prefixEq_iff cs t rest).1 b
    exact ⟨by omega, a, b⟩

theorem occursAt_le (cs : CaseMode) (hay needle : List Nat) (i : Nat) (h : occursAt cs hay needle i) :
    i + needle.length ≤ hay.length := h.1

theorem occ_drop (cs : CaseMode) (hay needle : List Nat) (s i : Nat) :
    Occ cs (hay.drop s) needle i ↔ Occ cs hay needle (s + i) := by
  refine and_congr_right fun hne => ?_
  have := List.length_pos_iff.2 hne
  simp only [occursAt, window, List.drop_drop, List.length_drop]
  rw [show i + needle.length ≤ hay.length - s ↔ s + i + needle.length ≤ hay.length by omega]

theorem occursAt_take (cs : CaseMode) (hay needle : List Nat) (e i : Nat) :
    occursAt cs (hay.take e) needle i ↔ i + needle.length ≤ e ∧ occursAt cs hay needle i := by
  simp only [occursAt, window, List.length_take, Nat.le_min, and_assoc]
  refine and_congr_right fun a => and_congr_right fun _ => ?_
  rw [List.drop_take, List.take_take, Nat.min_eq_left (by omega)]

theorem occ_take (cs : CaseMode) (hay needle : List Nat) (e i : Nat) :
    Occ cs (hay.take e) needle i ↔ i + needle.length ≤ e ∧ Occ cs hay needle i := by
  unfold Occ
  rw [occursAt_take, and_left_comm]

theorem findFrom_least (cs : CaseMode) (n0 : Nat) (rest hay : List Nat) (off : Nat) :
    Least (fun j => off ≤ j ∧ occursAt cs hay (n0 :: rest) (j - off)) (findFrom cs n0 rest hay off) := by
  induction hay generalizing off with
  | nil => exact fun j h => by have := h.2.1; simp at this
  | cons h t ih =>
    unfold findFrom
    by_cases h0 : occursAt cs (h :: t) (n0 :: rest) 0
    · obtain ⟨he, hp⟩ := (occursAt_cons_zero cs h t n0 rest).1 h0
      have hl : ¬ (n0 :: rest).length > (h :: t).length := by have := h0.1; omega
      rw [if_pos he, if_neg hl, if_pos hp]
      exact ⟨⟨Nat.le_refl off, by rwa [Nat.sub_self]⟩, fun j hj hp => Nat.not_lt.2 hp.1 hj⟩
    · have hsub : ∀ j, off + 1 ≤ j → j - off = j - (off + 1) + 1 := fun j hj => by
        rw [Nat.sub_add_eq, Nat.sub_add_cancel (Nat.sub_pos_of_lt hj)]
      have tail : Least (fun j => off ≤ j ∧ occursAt cs (h :: t) (n0 :: rest) (j - off)) (findFrom cs n0 rest t (off + 1)) := by
        refine (ih (off + 1)).congr fun j => ⟨fun h => ⟨Nat.le_of_succ_le h.1, ?_⟩, ?_⟩
        · rw [hsub j h.1, occursAt_cons_succ]; exact h.2
        · rintro ⟨a, b⟩
          have hj : off + 1 ≤ j := Nat.lt_of_le_of_ne a fun e => h0 (by rwa [← e, Nat.sub_self] at b)
          rw [hsub j hj, occursAt_cons_succ] at b
          exact ⟨hj, b⟩
      by_cases he : eqv cs h n0 = true
      · rw [if_pos he]
        by_cases hlen : (n0 :: rest).length > (h :: t).length
        · rw [if_pos hlen]
          exact fun j hp => by have := hp.2.1; omega
        · rw [if_neg hlen, if_neg fun hp => h0 ((occursAt_cons_zero cs h t n0 rest).2 ⟨he, hp⟩)]
          exact tail
      · rw [if_neg he]
        exact tail

/-- For the empty needle, which the C++ callers exclude, the model answers `none`. -/
theorem findSub_least (cs : CaseMode) (hay needle : List Nat) : Least (Occ cs hay needle) (findSub cs hay needle) := by
  cases needle with
  | nil => exact fun j h => h.1 rfl
  | cons n0 rest =>
    exact (findFrom_least cs n0 rest hay 0).congr fun j =>
      ⟨fun h => ⟨List.cons_ne_nil n0 rest, h.2⟩, fun h => ⟨Nat.zero_le j, h.2⟩⟩

theorem findSub_nil_needle (cs : CaseMode) (hay : List Nat) : findSub cs hay [] = none := rfl

theorem findSub_eq_iff (cs : CaseMode) (hay needle : List Nat) (o : Option Nat) :
    findSub cs hay needle = o ↔ Least (Occ cs hay needle) o :=
  ⟨fun h => h ▸ findSub_least cs hay needle, (findSub_least cs hay needle).unique⟩

theorem findSub_eq_some_iff_prefixEq (cs : CaseMode) (hay needle : List Nat) (i : Nat) :
    findSub cs hay needle = some i ↔
      needle ≠ [] ∧ i + needle.length ≤ hay.length ∧ prefixEq cs (hay.drop i) needle = true ∧
        ∀ j, j < i → ¬ (j + needle.length ≤ hay.length ∧ prefixEq cs (hay.drop j) needle = true) := by
  by_cases hne : needle = []
  · rw [hne, findSub_nil_needle]; exact ⟨nofun, fun h => absurd rfl h.1⟩
  · rw [findSub_eq_iff]
    simp only [First, Occ, occursAt_iff_prefixEq, and_assoc, ne_eq, hne, not_false_eq_true, true_and]

theorem findSub_eq_none_iff_prefixEq (cs : CaseMode) (hay needle : List Nat) :
    findSub cs hay needle = none ↔
      needle = [] ∨ ∀ i, ¬ (i + needle.length ≤ hay.length ∧ prefixEq cs (hay.drop i) needle = true) := by
  by_cases hne : needle = []
  · rw [hne, findSub_nil_needle]; exact ⟨fun _ => Or.inl rfl, fun _ => rfl⟩
  · rw [findSub_eq_iff]
    simp only [First, Occ, occursAt_iff_prefixEq, ne_eq, hne, not_false_eq_true, true_and, false_or]

theorem findSub_some_le (cs : CaseMode) (hay needle : List Nat) (i : Nat)
    (h : findSub cs hay needle = some i) : i + needle.length ≤ hay.length :=
  ((findSub_eq_some_iff_prefixEq cs hay needle i).1 h).2.1

end StVerif.Lemmas.Search
