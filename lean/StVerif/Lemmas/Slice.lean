/-
  Helper lemmas for C08: `Good` (the call returned the wanted bytes and asked the allocator for no
  more than the subject occupies), the clamped copy of `substr`, `left` / `right`, the pointer walks
  of the trims.
-/
import StVerif.Model.Slice
import StVerif.Spec.Slice
import StVerif.Lemmas.MachineInt
import StVerif.Lemmas.ListFacts

namespace StVerif.Lemmas.Slice
open StVerif.Slice

theorem toI64_small (n : Nat) (h : n < 2^63) : toI64 n = n :=
  toSigned_natCast (w := 64) (by decide) h

/-- `s.length + 1`: the subject's bytes and the terminator -/
def Good (s want : List Nat) (o : Outcome Res) : Prop :=
  ∃ a, o = .ok ⟨want, a⟩ ∧ a ≤ s.length + 1

theorem allocReq_le (n : Nat) : allocReq n ≤ n + 1 := by
  unfold allocReq; split <;> omega

theorem good_whole (s : List Nat) : Good s s (.ok (whole s)) :=
  ⟨allocReq s.length, rfl, allocReq_le _⟩

theorem good_empty (s : List Nat) : Good s [] (.ok emptyRes) := ⟨0, rfl, Nat.zero_le _⟩

theorem take_drop_append_zero (s : List Nat) (a c : Nat) (h : a + c ≤ s.length) :
    ((s ++ [0]).drop a).take c = (s.drop a).take c := by
  rw [List.drop_append_of_le_length (Nat.le_of_add_right_le h),
    List.take_append_of_le_length (by rw [List.length_drop]; omega)]

theorem substrTail_good (s : List Nat) (count a : Nat) (hs : s.length < 2^63) (ha : a ≤ s.length) :
    Good s ((s.drop a).take count) (substrTail .fixed s count (a : Int)) := by
  have hw : wrap64 ((s.length : Int) - (a : Int)) = s.length - a := by
    rw [← Int.ofNat_sub ha]
    exact wrap64_nat _ (by omega)
  unfold substrTail
  simp only [hw]
  -- the count is clamped to the room after `a`; the wanted text is the same for either count
  rw [clamp_eq_min, ← List.length_drop (l := s), List.take_eq_take_min (l := s.drop a) (i := count)]
  have hle : a + min count (s.drop a).length ≤ s.length := by rw [List.length_drop]; omega
  generalize min count (s.drop a).length = c at hle ⊢
  have hreq : allocReq c ≤ s.length + 1 := Nat.le_trans (allocReq_le c) (by omega)
  by_cases hz : (a : Int) = 0 ∧ c = s.length
  · rw [if_pos hz, Int.natCast_eq_zero.1 hz.1, hz.2, List.drop_zero, List.take_length]
    exact good_whole s
  · -- only `c = s.length`, which `hz` excludes, would ask for `2 ^ 63` units
    rw [if_neg hz, Int.toNat_natCast, if_neg (by have := allocReq_le c; unfold allocLimit; omega),
      if_neg (Nat.not_lt.2 (Nat.le_succ_of_le hle)), take_drop_append_zero s a c hle]
    exact ⟨allocReq c, rfl, hreq⟩

theorem spec_substr_of_start (s : List Nat) (start : Int) (count : Nat) (hle : start ≤ (s.length : Int)) :
    Spec.Slice.substr s start count =
      (s.drop (if 0 ≤ start then start.toNat else ((s.length : Int) + start).toNat)).take
        (if count = SIZE_MAX then s.length else count) := by
  unfold Spec.Slice.substr
  rw [if_neg (Int.not_lt.2 hle), apply_ite (List.take · _),
    List.take_of_length_le (by rw [List.length_drop]; exact Nat.sub_le ..)]
  rfl

theorem substr_good (s : List Nat) (start : Int) (count : Nat) (hs : s.length < 2^63)
    (h0 : -(2^63 : Int) ≤ start) (h1 : start < 2^63) :
    Good s (Spec.Slice.substr s start count) (substr s start count) := by
  -- `toNat` is the clip at the beginning
  have clip (x : Int) : (if x < 0 then 0 else x) = (x.toNat : Int) := by
    by_cases h : x < 0
    · rw [if_pos h, Int.toNat_eq_zero.2 (Int.le_of_lt h)]; rfl
    · rw [if_neg h, Int.toNat_of_nonneg (Int.not_lt.1 h)]
  unfold substr
  simp only []
  by_cases hneg : start < 0
  · -- counted from the end
    rw [if_pos hneg, toI64_wrap64 _ (by omega) (by omega), clip, Int.add_comm start,
      spec_substr_of_start s start count (Int.le_trans (Int.le_of_lt hneg) (Int.natCast_nonneg _)),
      if_neg (Int.not_le.2 hneg)]
    exact substrTail_good s _ _ hs (by omega)
  · obtain ⟨n, rfl⟩ := Int.eq_ofNat_of_zero_le (Int.not_lt.1 hneg)
    rw [if_neg hneg, wrap64_nat n (by omega)]
    by_cases hb : n > s.length
    · rw [if_pos hb]
      unfold Spec.Slice.substr
      rw [if_pos (Int.ofNat_lt.2 hb)]
      exact good_empty s
    · have hn := Nat.le_of_not_lt hb
      rw [if_neg hb, spec_substr_of_start s n count (Int.ofNat_le.2 hn), if_pos (Int.natCast_nonneg n), Int.toNat_natCast]
      exact substrTail_good s _ n hs hn

theorem substr_nat (s : List Nat) (a count : Nat) (hs : s.length < 2^63) (ha : a ≤ s.length) :
    Good s ((s.drop a).take count) (substr s (a : Int) count) := by
  have h := substr_good s a count hs (by omega) (by omega)
  rw [spec_substr_of_start s a count (Int.ofNat_le.2 ha), if_pos (Int.natCast_nonneg a), Int.toNat_natCast] at h
  split at h
  · next hc =>
    -- `ST_AUTO_SIZE`: the count becomes the size, and either is at least what is left
    subst hc
    rw [List.take_of_length_le (by rw [List.length_drop]; unfold SIZE_MAX; omega)]
    rwa [List.take_of_length_le (by rw [List.length_drop]; exact Nat.sub_le ..)] at h
  · exact h

theorem substr_nat_auto (s : List Nat) (a : Nat) (hs : s.length < 2^63) (ha : a ≤ s.length) :
    Good s (s.drop a) (substr s (a : Int) SIZE_MAX) := by
  have h := substr_nat s a SIZE_MAX hs ha
  rwa [List.take_of_length_le (by rw [List.length_drop]; unfold SIZE_MAX; omega)] at h

theorem left_good (s : List Nat) (n : Nat) (hs : s.length < 2^63) :
    Good s (Spec.Slice.left s n) (left s n) := by
  unfold left Spec.Slice.left
  rw [← List.take_eq_take_min]
  exact substr_nat s 0 n hs (Nat.zero_le _)

theorem right_good (s : List Nat) (n : Nat) (hs : s.length < 2^63) :
    Good s (Spec.Slice.right s n) (right s n) := by
  unfold right Spec.Slice.right
  simp only []
  by_cases h : n ≥ s.length
  · rw [if_pos h, Nat.min_eq_right h, Nat.sub_self, List.drop_zero]
    exact good_whole s
  · have hn : n ≤ s.length := Nat.le_of_not_le h
    have hlt := Nat.lt_of_le_of_lt (Nat.sub_le s.length n) hs
    rw [if_neg h, Nat.min_eq_left hn, ← Int.ofNat_sub hn, wrap64_nat _ (Nat.lt_trans hlt (by decide)), toI64_small _ hlt]
    have h := substr_nat s (s.length - n) n hs (Nat.sub_le ..)
    rwa [List.take_of_length_le (by rw [List.length_drop, Nat.sub_sub_self hn]; exact Nat.le_refl n)] at h

theorem inSet_cBytes_zero (p : List Nat) : inSet (cBytes p) 0 = false := by
  unfold inSet cBytes
  induction p with
  | nil => rfl
  | cons c rest ih =>
    rw [List.takeWhile_cons]
    by_cases h : c = 0
    · simp [h]
    · simp only [ne_eq, h, not_false_eq_true, decide_true, if_true, List.contains_cons]
      rw [ih]
      simp; omega

theorem cBytes_eq_cString (p : List Nat) : cBytes p = Spec.Slice.cString p := rfl

theorem drop_length_takeWhile (p : Nat → Bool) (s : List Nat) : s.drop (s.takeWhile p).length = s.dropWhile p := by
  have h := List.takeWhile_append_dropWhile (p := p) (l := s)
  calc s.drop (s.takeWhile p).length
      = (s.takeWhile p ++ s.dropWhile p).drop (s.takeWhile p).length := by rw [h]
    _ = s.dropWhile p := List.drop_left

theorem walkUp_eq (cset : List Nat) (h0 : inSet cset 0 = false) (s : List Nat) (i : Nat) :
    walkUp cset s i = i + (s.takeWhile (inSet cset)).length := by
  induction s generalizing i with
  | nil => simp [walkUp]
  | cons c rest ih =>
    unfold walkUp
    rw [List.takeWhile_cons]
    by_cases hc : inSet cset c = true
    · have hne : c ≠ 0 := by intro h; rw [h, h0] at hc; exact absurd hc (by decide)
      rw [if_pos ⟨hne, hc⟩, if_pos hc, ih, List.length_cons]
      omega
    · rw [if_neg (fun h => hc h.2), if_neg hc]
      simp

theorem walkDown_eq (cset s : List Nat) (lo k : Nat) (h : lo + k ≤ s.length) :
    walkDown cset s lo (lo + k) =
      (lo : Int) + ((((s.drop lo).take k).reverse.dropWhile (inSet cset)).length : Int) - 1 := by
  induction k with
  | zero =>
    cases lo with
    | zero => simp [walkDown]
    | succ r =>
      simp only [walkDown]
      rw [if_neg (by omega)]
      simp
  | succ k ih =>
    have hlt : lo + k < s.length := h
    have hk : k < (s.drop lo).length := by rw [List.length_drop]; omega
    rw [← Nat.add_assoc]
    unfold walkDown
    rw [List.take_succ_eq_append_getElem hk, List.reverse_append, List.reverse_cons, List.reverse_nil,
      List.nil_append, List.singleton_append, List.dropWhile_cons, List.getElem_drop]
    have hg : s.getD (lo + k) 0 = s[lo + k] := by
      rw [List.getD_eq_getElem?_getD, List.getElem?_eq_getElem hlt]; rfl
    rw [hg]
    by_cases hc : inSet cset s[lo + k] = true
    · rw [if_pos ⟨Nat.le_add_right lo k, hc⟩, if_pos hc, ih (Nat.le_of_lt hlt)]
    · rw [if_neg (fun h => hc h.2), if_neg hc]
      simp only [List.length_cons, List.length_reverse, List.length_take_of_le (Nat.le_of_lt hk)]
      omega

theorem reverse_dropWhile_reverse (p : Nat → Bool) (l : List Nat) :
    (l.reverse.dropWhile p).reverse = l.take (l.reverse.dropWhile p).length := by
  have h := List.takeWhile_append_dropWhile (p := p) (l := l.reverse)
  have h2 : l = (l.reverse.dropWhile p).reverse ++ (l.reverse.takeWhile p).reverse := by
    rw [← List.reverse_append, h, List.reverse_reverse]
  conv => rhs; rw [h2]
  rw [List.take_left' (by simp)]

theorem walkDown_rest (cset s : List Nat) (lo : Nat) (hlo : lo ≤ s.length) :
    ∃ m, m ≤ s.length ∧ walkDown cset s lo s.length = (lo : Int) + (m : Int) - 1 ∧
      (s.drop lo).take m = ((s.drop lo).reverse.dropWhile (inSet cset)).reverse := by
  refine ⟨((s.drop lo).reverse.dropWhile (inSet cset)).length, ?_, ?_, (reverse_dropWhile_reverse _ _).symm⟩
  · exact Nat.le_trans (length_dropWhile_le ..) (by rw [List.length_reverse, List.length_drop]; exact Nat.sub_le ..)
  · have hw := walkDown_eq cset s lo (s.length - lo) (by omega)
    rwa [Nat.add_sub_cancel' hlo, List.take_of_length_le (Nat.le_of_eq List.length_drop)] at hw

theorem trimLeft_good (s charset : List Nat) (hs : s.length < 2^63) :
    Good s (Spec.Slice.trimLeft s (Spec.Slice.cString charset)) (trimLeft s charset) := by
  unfold trimLeft Spec.Slice.trimLeft
  by_cases he : s.isEmpty = true
  · rw [if_pos he, List.isEmpty_iff.1 he]
    exact good_empty []
  · rw [if_neg he]
    simp only []
    rw [walkUp_eq _ (inSet_cBytes_zero charset), Nat.zero_add]
    show Good s (s.dropWhile (inSet (cBytes charset))) _
    rw [← drop_length_takeWhile]
    exact substr_nat_auto s _ hs (length_takeWhile_le _ s)

theorem trimRight_good (s charset : List Nat) (hs : s.length < 2^63) :
    Good s (Spec.Slice.trimRight s (Spec.Slice.cString charset)) (trimRight s charset) := by
  unfold trimRight Spec.Slice.trimRight
  by_cases he : s.isEmpty = true
  · rw [if_pos he, List.isEmpty_iff.1 he]
    exact good_empty []
  · rw [if_neg he]
    simp only []
    obtain ⟨m, hm, hw, ht⟩ := walkDown_rest (cBytes charset) s 0 (Nat.zero_le _)
    rw [hw]
    show Good s ((s.drop 0).reverse.dropWhile (inSet (cBytes charset))).reverse _
    rw [← ht, Int.natCast_zero, Int.zero_add, Int.sub_add_cancel, wrap64_nat m (by omega)]
    exact substr_nat s 0 m hs (Nat.zero_le _)

theorem trim_good (s charset : List Nat) (hs : s.length < 2^63) :
    Good s (Spec.Slice.trim s (Spec.Slice.cString charset)) (trim s charset) := by
  unfold trim Spec.Slice.trim Spec.Slice.trimRight Spec.Slice.trimLeft
  by_cases he : s.isEmpty = true
  · rw [if_pos he, List.isEmpty_iff.1 he]
    exact good_empty []
  · rw [if_neg he]
    simp only []
    rw [walkUp_eq _ (inSet_cBytes_zero charset), Nat.zero_add]
    show Good s ((s.dropWhile (inSet (cBytes charset))).reverse.dropWhile (inSet (cBytes charset))).reverse _
    rw [← drop_length_takeWhile (inSet (cBytes charset)) s]
    have hle := length_takeWhile_le (inSet (cBytes charset)) s
    generalize (s.takeWhile (inSet (cBytes charset))).length = lp at hle ⊢
    obtain ⟨m, hm, hw, ht⟩ := walkDown_rest (cBytes charset) s lp hle
    rw [hw, ← ht, show (lp : Int) + (m : Int) - 1 - (lp : Int) + 1 = (m : Int) by omega, wrap64_nat m (by omega)]
    exact substr_nat s lp m hs hle

end StVerif.Lemmas.Slice
