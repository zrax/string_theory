/-
  Bridge between the kernels translated from the C++ source on every run
  (StVerif/Generated/Kernels.lean, written by tools/gen_kernels.py from the clang AST) and the
  hand-written model the property theorems are about (StVerif/Model/*.lean).

  The bridge theorems have the shape `generated … = .ok (model …)`, for every source whatever its length and
  for every argument of the range the statement names, so a change of a mask, a bound, a shift, a range test or the
  order of two statements in one of these C++ functions makes the theorem stop checking.  `extract_*_ok` additionally
  show that a decoding step started inside the source never reads outside it (the part of C03 that the list-based
  model cannot express).

  A translated function with bounds tests is followed once, along its own tests, each read obtained with `rd_lt`
  where the bounds test has made it legal.  A loop `while (sp < ep) { ch = <step>; <body> }` is handled by
  `Steps.loop_eq`: what is shown per loop is one iteration.
-/
import StVerif.Generated.Kernels
import StVerif.Model.Utf
import StVerif.Model.Search
import StVerif.Model.Codec
open StVerif.Cxx StVerif.Generated StVerif.Utf

namespace StVerif.KernelBridge

theorem error_char_eq (k : Int) : Kernels.error_char k = .ok (errorChar k.toNat) := rfl

theorem utf8_measure_eq (ch : Nat) : Kernels.utf8_measure ch = .ok (utf8Measure ch) := by
  unfold Kernels.utf8_measure utf8Measure
  simp only [pure_eq_ok, apply_ite (Except.ok (ε := Fault))]
  rfl

theorem utf16_measure_eq (ch : Nat) : Kernels.utf16_measure ch = .ok (utf16Measure ch) := by
  unfold Kernels.utf16_measure utf16Measure
  by_cases h1 : ch < 65536
  · simp only [h1, true_or, ↓reduceIte, pure_eq_ok]
  · by_cases h2 : ch > 1114111 <;> simp only [h1, h2, false_or, ↓reduceIte, pure_eq_ok]

theorem write_utf8_eq (ch : Nat) :
    Kernels.write_utf8 ch = .ok (match writeUtf8 ch with | some us => ((0 : Int), us) | none => ((4 : Int), [])) := by
  unfold Kernels.write_utf8 writeUtf8
  by_cases h1 : ch < 128
  · simp only [h1, ↓reduceIte]; rfl
  by_cases h2 : ch < 2048
  · simp only [h1, h2, ↓reduceIte]; rfl
  by_cases h3 : ch < 65536
  · simp only [h1, h2, h3, ↓reduceIte]; rfl
  by_cases h4 : ch ≤ 1114111 <;> simp only [h1, h2, h3, h4, ↓reduceIte] <;> rfl

theorem write_utf16_eq (ch : Nat) :
    Kernels.write_utf16 ch = .ok (match writeUtf16 ch with | some us => ((0 : Int), us) | none => ((4 : Int), [])) := by
  unfold Kernels.write_utf16 writeUtf16
  by_cases h1 : ch < 65536
  · simp only [h1, ↓reduceIte]; rfl
  by_cases h2 : ch ≤ 1114111 <;> simp only [h1, h2, ↓reduceIte] <;> rfl

theorem char_error_eq (ch : Nat) (h : ch < 2 ^ 31) : Kernels.char_error ch = .ok ((charError ch : Nat) : Int) := by
  unfold Kernels.char_error charError
  have hb : ch &&& 4290772991 ≤ ch := Nat.and_le_left
  split
  · simp only [pure_eq_ok]
    generalize ch &&& 4290772991 = x at hb
    apply congrArg
    omega
  · rfl

-- the statements of Props/C06Tie, C07Tie and C09Tie write `KernelBridge.toChar`: it is `Cxx.toChar` under this alias
export StVerif.Cxx (toChar)

theorem cl_fast_lower_eq : ∀ b, b < 256 → Kernels.cl_fast_lower (toChar b) = .ok (toChar (Search.lower b)) := by
  decide +kernel

theorem cl_fast_upper_eq : ∀ b, b < 256 → Kernels.cl_fast_upper (toChar b) = .ok (toChar (Search.upper b)) := by
  decide +kernel

theorem b64_encode_size_eq (n : Nat) (h : n < 2 ^ 62) : Kernels.b64_encode_size n = .ok (Codec.b64EncodeSize n) := by
  unfold Kernels.b64_encode_size Codec.b64EncodeSize
  rw [Nat.mod_eq_of_lt (a := n + 2) (by omega), Nat.mod_eq_of_lt (by omega)]
  rfl

theorem and_lt (x m n : Nat) (h : m < n) : x &&& m < n := Nat.lt_of_le_of_lt Nat.and_le_right h

theorem and_shl_lt (x m s n : Nat) (h : m <<< s < 2 ^ n) : (x &&& m) <<< s < 2 ^ n := by
  rw [Nat.shiftLeft_eq] at h ⊢
  exact Nat.lt_of_le_of_lt (Nat.mul_le_mul_right _ Nat.and_le_right) h

theorem and_shr_lt (x m s n : Nat) (h : m >>> s < 2 ^ n) : (x &&& m) >>> s < 2 ^ n := by
  rw [Nat.shiftRight_eq_div_pow] at h ⊢
  exact Nat.lt_of_le_of_lt (Nat.div_le_div_right Nat.and_le_right) h

/-- The value fits 23 bits: a decoded sequence of at most 21 bits or a flagged error (every byte but an ASCII one is
    masked).  The proof follows the function: lead-byte class, then the bounds test (which decides how much of the source
    the model sees), then the continuation bytes. -/
theorem extract_utf8_spec (mem : List Nat) (p : Nat) (hp : p < mem.length) :
    ∃ p', p < p' ∧ p' ≤ mem.length ∧ ∃ v, (Kernels.extract_utf8 mem p mem.length = .ok (v, p') ∧ v < 2 ^ 23) ∧
      decodeUtf8 (mem.drop p) = v :: decodeUtf8 (mem.drop p') := by
  obtain ⟨b0, r0, d0⟩ := rd_lt mem p hp
  rw [d0, decodeUtf8.eq_def (b0 :: _), Kernels.extract_utf8]
  by_cases c1 : b0 < 128
  · refine ⟨p + 1, Nat.lt_succ_self p, hp, ?_⟩
    simp only [↓bind_of_ok r0, c1, ↓reduceIte]
    exact ⟨_, ⟨rfl, by omega⟩, rfl⟩
  by_cases c2 : b0 &&& 224 = 192
  · simp only [↓bind_of_ok r0, c1, c2, ↓reduceIte]
    by_cases s : p + 2 > mem.length
    · refine ⟨p + 1, Nat.lt_succ_self p, hp, ?_⟩
      simp only [s, ↓reduceIte, List.drop_eq_nil_of_le (Nat.le_of_lt_succ s)]
      exact ⟨_, ⟨rfl, by decide⟩, rfl⟩
    obtain ⟨b1, r1, d1⟩ := rd_lt mem (p + 1) (Nat.le_of_not_gt s)
    simp only [s, ↓reduceIte, ↓bind_of_ok r1, d1]
    by_cases k : b1 &&& 192 ≠ 128
    · refine ⟨p + 1, Nat.lt_succ_self p, hp, ?_⟩
      simp only [if_pos k, d1]
      exact ⟨_, ⟨rfl, by decide⟩, rfl⟩
    · refine ⟨p + 2, Nat.lt_add_of_pos_right Nat.two_pos, Nat.le_of_not_gt s, ?_⟩
      simp only [if_neg k]
      exact ⟨_, ⟨rfl, Nat.or_lt_two_pow (and_shl_lt b0 31 6 23 (by decide)) (and_shl_lt b1 63 0 23 (by decide))⟩, rfl⟩
  by_cases c3 : b0 &&& 240 = 224
  · simp only [↓bind_of_ok r0, c1, c2, c3, ↓reduceIte]
    by_cases s : p + 3 > mem.length
    · refine ⟨p + 1, Nat.lt_succ_self p, hp, ?_⟩
      simp only [s, ↓reduceIte]
      split
      -- the pattern `b1 :: b2 :: r` would put a unit at `p + 2`, past the end: drop one unit more on both sides of `h`
      · next h =>
        cases (congrArg (List.drop 1) h).symm.trans (List.drop_drop.trans (List.drop_eq_nil_of_le (Nat.le_of_lt_succ s)))
      · exact ⟨_, ⟨rfl, by decide⟩, rfl⟩
    have l := Nat.le_of_not_gt s
    obtain ⟨b1, r1, d1⟩ := rd_lt mem (p + 1) (Nat.lt_of_succ_lt l)
    obtain ⟨b2, r2, d2⟩ := rd_lt mem (p + 2) l
    simp only [s, ↓reduceIte, ↓bind_of_ok r1, ↓bind_of_ok r2, d1, d2, ite_cascade_or]
    by_cases k : b1 &&& 192 ≠ 128 ∨ b2 &&& 192 ≠ 128
    · refine ⟨p + 1, Nat.lt_succ_self p, hp, ?_⟩
      simp only [k, ↓reduceIte, d1, d2]
      exact ⟨_, ⟨rfl, by decide⟩, rfl⟩
    · refine ⟨p + 3, Nat.lt_add_of_pos_right (by decide), l, ?_⟩
      simp only [k, ↓reduceIte]
      exact ⟨_, ⟨rfl, Nat.or_lt_two_pow (Nat.or_lt_two_pow (and_shl_lt b0 15 12 23 (by decide))
        (and_shl_lt b1 63 6 23 (by decide))) (and_shl_lt b2 63 0 23 (by decide))⟩, rfl⟩
  by_cases c4 : b0 &&& 248 = 240
  · simp only [↓bind_of_ok r0, c1, c2, c3, c4, ↓reduceIte]
    by_cases s : p + 4 > mem.length
    · refine ⟨p + 1, Nat.lt_succ_self p, hp, ?_⟩
      simp only [s, ↓reduceIte]
      split
      · next h =>
        cases (congrArg (List.drop 2) h).symm.trans (List.drop_drop.trans (List.drop_eq_nil_of_le (Nat.le_of_lt_succ s)))
      · exact ⟨_, ⟨rfl, by decide⟩, rfl⟩
    have l := Nat.le_of_not_gt s
    obtain ⟨b1, r1, d1⟩ := rd_lt mem (p + 1) (by omega)
    obtain ⟨b2, r2, d2⟩ := rd_lt mem (p + 2) (Nat.lt_of_succ_lt l)
    obtain ⟨b3, r3, d3⟩ := rd_lt mem (p + 3) l
    simp only [s, ↓reduceIte, ↓bind_of_ok r1, ↓bind_of_ok r2, ↓bind_of_ok r3, d1, d2, d3, ite_cascade_or]
    by_cases k : b1 &&& 192 ≠ 128 ∨ b2 &&& 192 ≠ 128 ∨ b3 &&& 192 ≠ 128
    · refine ⟨p + 1, Nat.lt_succ_self p, hp, ?_⟩
      simp only [k, ↓reduceIte, d1, d2, d3]
      exact ⟨_, ⟨rfl, by decide⟩, rfl⟩
    · refine ⟨p + 4, Nat.lt_add_of_pos_right (by decide), l, ?_⟩
      simp only [k, ↓reduceIte]
      exact ⟨_, ⟨rfl, Nat.or_lt_two_pow (Nat.or_lt_two_pow (Nat.or_lt_two_pow (and_shl_lt b0 7 18 23 (by decide))
        (and_shl_lt b1 63 12 23 (by decide))) (and_shl_lt b2 63 6 23 (by decide))) (and_shl_lt b3 63 0 23 (by decide))⟩, rfl⟩
  · refine ⟨p + 1, Nat.lt_succ_self p, hp, ?_⟩
    simp only [↓bind_of_ok r0, c1, c2, c3, c4, ↓reduceIte]
    exact ⟨_, ⟨rfl, by decide⟩, rfl⟩

theorem extract_utf8_sound (mem : List Nat) (p v p' : Nat) (hp : p < mem.length)
    (h : Kernels.extract_utf8 mem p mem.length = .ok (v, p')) :
    p < p' ∧ p' ≤ mem.length ∧ decodeUtf8 (mem.drop p) = v :: decodeUtf8 (mem.drop p') := by
  obtain ⟨q, h1, h2, w, ⟨hk, _⟩, hd⟩ := extract_utf8_spec mem p hp
  cases hk.symm.trans h
  exact ⟨h1, h2, hd⟩

theorem extract_utf8_ok (mem : List Nat) (p : Nat) (hp : p < mem.length) :
    isOk (Kernels.extract_utf8 mem p mem.length) = true := by
  obtain ⟨_, _, _, _, ⟨hk, _⟩, _⟩ := extract_utf8_spec mem p hp
  rw [hk]; rfl

/-- the value fits 23 bits when the units fit 16: a unit, a decoded pair, or a flagged error -/
theorem extract_utf16_spec (mem : List Nat) (p : Nat) (hp : p < mem.length) :
    ∃ p', p < p' ∧ p' ≤ mem.length ∧ ∃ v, (Kernels.extract_utf16 mem p mem.length = .ok (v, p') ∧
      ((∀ u ∈ mem, u < 65536) → v < 2 ^ 23)) ∧ decodeUtf16 (mem.drop p) = v :: decodeUtf16 (mem.drop p') := by
  obtain ⟨u0, r0, d0⟩ := rd_lt mem p hp
  rw [d0, decodeUtf16.eq_def (u0 :: _), Kernels.extract_utf16]
  simp only [rd16, ↓bind_of_ok r0, ok_bind, Kernels.error_char, pure_eq_ok, Nat.add_zero, ite_cascade_and]
  by_cases c : u0 ≥ 55296 ∧ u0 ≤ 57343
  · simp only [c, and_self, ↓reduceIte]
    by_cases s : p + 1 ≥ mem.length
    · refine ⟨p + 1, Nat.lt_succ_self p, hp, ?_⟩
      simp only [s, ↓reduceIte, List.drop_eq_nil_of_le s]
      exact ⟨_, ⟨rfl, fun _ => by decide⟩, rfl⟩
    obtain ⟨u1, r1, d1⟩ := rd_lt mem (p + 1) (Nat.lt_of_not_ge s)
    have a0 : u0 &&& 1023 ≤ 1023 := Nat.and_le_right
    have a1 : u1 &&& 1023 ≤ 1023 := Nat.and_le_right
    simp only [s, ↓reduceIte, ↓bind_of_ok r1, d1, ite_cascade_and]
    by_cases hl : u0 < 56320
    · by_cases k : u1 ≥ 56320 ∧ u1 ≤ 57343
      · refine ⟨p + 2, Nat.lt_add_of_pos_right Nat.two_pos, Nat.lt_of_not_ge s, ?_⟩
        simp only [hl, k, and_self, ↓reduceIte]
        exact ⟨_, ⟨rfl, fun _ => by omega⟩, rfl⟩
      · refine ⟨p + 1, Nat.lt_succ_self p, hp, ?_⟩
        simp only [hl, k, ↓reduceIte, d1]
        exact ⟨_, ⟨rfl, fun _ => by decide⟩, rfl⟩
    · by_cases k : u1 ≥ 55296 ∧ u1 ≤ 56319
      · refine ⟨p + 2, Nat.lt_add_of_pos_right Nat.two_pos, Nat.lt_of_not_ge s, ?_⟩
        simp only [hl, k, and_self, ↓reduceIte]
        exact ⟨_, ⟨rfl, fun _ => by omega⟩, rfl⟩
      · refine ⟨p + 1, Nat.lt_succ_self p, hp, ?_⟩
        simp only [hl, k, ↓reduceIte, d1]
        exact ⟨_, ⟨rfl, fun _ => by decide⟩, rfl⟩
  · refine ⟨p + 1, Nat.lt_succ_self p, hp, ?_⟩
    simp only [c, ↓reduceIte]
    exact ⟨_, ⟨rfl, fun hu => Nat.lt_trans (hu u0 (mem_of_rd r0)) (by decide)⟩, rfl⟩

theorem extract_utf16_sound (mem : List Nat) (p v p' : Nat) (hp : p < mem.length)
    (h : Kernels.extract_utf16 mem p mem.length = .ok (v, p')) :
    p < p' ∧ p' ≤ mem.length ∧ decodeUtf16 (mem.drop p) = v :: decodeUtf16 (mem.drop p') := by
  obtain ⟨q, h1, h2, w, ⟨hk, _⟩, hd⟩ := extract_utf16_spec mem p hp
  cases hk.symm.trans h
  exact ⟨h1, h2, hd⟩

theorem extract_utf16_ok (mem : List Nat) (p : Nat) (hp : p < mem.length) :
    isOk (Kernels.extract_utf16 mem p mem.length) = true := by
  obtain ⟨_, _, _, _, ⟨hk, _⟩, _⟩ := extract_utf16_spec mem p hp
  rw [hk]; rfl

/-- The source `mem` is cut into steps: at every position `p` inside it there are the next value `v` of the decoder `dec`
    and the position `p'` behind it, related by `R p v p'`. -/
structure Steps (R : Nat → Nat → Nat → Prop) (dec : List Nat → List Nat) (mem : List Nat) : Prop where
  nil : dec [] = []
  next : ∀ p, p < mem.length →
    ∃ p', p < p' ∧ p' ≤ mem.length ∧ ∃ v, R p v p' ∧ dec (mem.drop p) = v :: dec (mem.drop p')

theorem extract_utf8_steps (mem : List Nat) :
    Steps (fun p v p' => Kernels.extract_utf8 mem p mem.length = .ok (v, p') ∧ v < 2 ^ 23) decodeUtf8 mem :=
  ⟨rfl, extract_utf8_spec mem⟩

theorem extract_utf16_steps (mem : List Nat) :
    Steps (fun p v p' => Kernels.extract_utf16 mem p mem.length = .ok (v, p') ∧ ((∀ u ∈ mem, u < 65536) → v < 2 ^ 23))
      decodeUtf16 mem :=
  ⟨rfl, extract_utf16_spec mem⟩

theorem rd_steps (mem : List Nat) : Steps (fun p v p' => rd mem p = .ok v ∧ p' = p + 1) (fun l => l) mem :=
  ⟨rfl, fun p hp => let ⟨v, hr, hd⟩ := rd_lt mem p hp; ⟨p + 1, Nat.lt_succ_self p, hp, v, ⟨hr, rfl⟩, hd⟩⟩

/-- The rule for a translated loop over such a source.  `loop fuel p s` is the loop entered at position `p` in state
    `s`; `I` is an invariant of position and state (the running count of a sizing pass does not wrap). -/
theorem Steps.loop_eq {R : Nat → Nat → Nat → Prop} {dec : List Nat → List Nat} {mem : List Nat} (H : Steps R dec mem)
    {σ ρ : Type} (loop : Nat → Nat → σ → M ρ) (model : Nat → List Nat → σ → M ρ) (I : Nat → σ → Prop)
    (hexit : ∀ n p s, mem.length ≤ p → loop (n + 1) p s = model p [] s)
    (hiter : ∀ n p s v p' vs, p < mem.length → p < p' → p' ≤ mem.length → R p v p' → I p s →
      (∀ s', I p' s' → loop n p' s' = model p' vs s') → loop (n + 1) p s = model p (v :: vs) s) :
    ∀ n p s, p ≤ mem.length → mem.length < n + p → I p s → loop n p s = model p (dec (mem.drop p)) s := by
  intro n
  induction n with
  | zero => intro p s _ h; omega
  | succ n ih =>
    intro p s hp hn hI
    by_cases hlt : p < mem.length
    · obtain ⟨p', h1, h2, v, hR, hd⟩ := H.next p hlt
      rw [hd]
      exact hiter n p s v p' _ hlt h1 h2 hR hI (fun s' hI' => ih p' s' h2 (by omega) hI')
    · rw [List.drop_eq_nil_of_le (by omega), H.nil]
      exact hexit n p s (by omega)

/-- `while (sp < ep) { ch = extract(sp, ep); ... }`: the values the translated step returns, in order -/
def stepLoop (step : List Nat → Nat → Nat → M (Nat × Nat)) (mem : List Nat) : Nat → Nat → M (List Nat)
  | 0, _ => .error .fuel
  | fuel + 1, p =>
    if p < mem.length then do
      let (v, p') ← step mem p mem.length
      let rest ← stepLoop step mem fuel p'
      pure (v :: rest)
    else pure []

theorem stepLoop_eq {step : List Nat → Nat → Nat → M (Nat × Nat)} {R : Nat → Nat → Nat → Prop}
    {dec : List Nat → List Nat} {mem : List Nat} (H : Steps R dec mem) (hR : ∀ p v p', R p v p' → step mem p mem.length = .ok (v, p')) :
    stepLoop step mem (mem.length + 1) 0 = .ok (dec mem) := by
  refine H.loop_eq (fun n p (_ : Unit) => stepLoop step mem n p) (fun _ vs _ => .ok vs) (fun _ _ => True) ?_ ?_
    (mem.length + 1) 0 () (by omega) (by omega) trivial
  · intro n p _ hp
    simp only [stepLoop, Nat.not_lt.2 hp, ↓reduceIte, pure_eq_ok]
  · intro n p _ v p' vs hp _ _ h _ ih
    simp only [stepLoop, hp, ↓reduceIte, hR p v p' h, ok_bind, ih () trivial, pure_eq_ok]

theorem utf8_loop_eq (mem : List Nat) : stepLoop Kernels.extract_utf8 mem (mem.length + 1) 0 = .ok (decodeUtf8 mem) :=
  stepLoop_eq (extract_utf8_steps mem) (fun _ _ _ h => h.1)

theorem utf16_loop_eq (mem : List Nat) : stepLoop Kernels.extract_utf16 mem (mem.length + 1) 0 = .ok (decodeUtf16 mem) :=
  stepLoop_eq (extract_utf16_steps mem) (fun _ _ _ h => h.1)

end StVerif.KernelBridge
