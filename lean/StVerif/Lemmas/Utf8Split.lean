/-
  For `C09.split_pieces_utf8`: well-formed UTF-8 (what `validate_utf8` accepts) is closed
  under cutting at occurrences of a well-formed separator, in both case modes.  `Valid` is the
  character structure of accepted text (lead byte of one of four classes + continuation bytes);
  the three structural facts are: a well-formed prefix does not change the verdict on the rest,
  well-formed text can be cut wherever no continuation byte stands, ASCII case folding keeps the
  byte classes.
-/
import StVerif.Lemmas.Split
import StVerif.Lemmas.UtfWalk

namespace StVerif.Lemmas.Utf8Split
open StVerif.Utf StVerif.Search StVerif.Spec.Search
open StVerif.Lemmas.Utf (Seq8 seq8_induction validateUtf8_seq validateUtf8_bad)

inductive Valid : List Nat → Prop
  | nil : Valid []
  | c1 (b : Nat) (r : List Nat) : L1 b → Valid r → Valid (b :: r)
  | c2 (b0 b1 : Nat) (r : List Nat) : L2 b0 → Cont b1 → Valid r → Valid (b0 :: b1 :: r)
  | c3 (b0 b1 b2 : Nat) (r : List Nat) : L3 b0 → Cont b1 → Cont b2 → Valid r → Valid (b0 :: b1 :: b2 :: r)
  | c4 (b0 b1 b2 b3 : Nat) (r : List Nat) : L4 b0 → Cont b1 → Cont b2 → Cont b3 → Valid r → Valid (b0 :: b1 :: b2 :: b3 :: r)

theorem Valid.seq {v : Nat} {us r : List Nat} (h : Seq8 v us) (hr : Valid r) : Valid (us ++ r) := by
  cases h with
  | one h0 => exact .c1 _ _ h0 hr
  | two h0 h1 => exact .c2 _ _ _ h0 h1 hr
  | three h0 h1 h2 => exact .c3 _ _ _ _ h0 h1 h2 hr
  | four h0 h1 h2 h3 => exact .c4 _ _ _ _ _ h0 h1 h2 h3 hr

theorem Valid.seq_rec {motive : (xs : List Nat) → Valid xs → Prop} (nil : motive [] .nil)
    (seq : ∀ {v us r} (hs : Seq8 v us) (hr : Valid r), motive r hr → motive (us ++ r) (.seq hs hr))
    {xs : List Nat} (h : Valid xs) : motive xs h := by
  induction h with
  | nil => exact nil
  | c1 b r h0 hr ih => exact seq (.one h0) hr ih
  | c2 b0 b1 r h0 h1 hr ih => exact seq (.two h0 h1) hr ih
  | c3 b0 b1 b2 r h0 h1 h2 hr ih => exact seq (.three h0 h1 h2) hr ih
  | c4 b0 b1 b2 b3 r h0 h1 h2 h3 hr ih => exact seq (.four h0 h1 h2 h3) hr ih

theorem valid_of_validate (xs : List Nat) : validateUtf8 xs = 0 → Valid xs := by
  induction xs using seq8_induction with
  | nil => exact fun _ => .nil
  | seq r hs ih => intro h; rw [validateUtf8_seq hs] at h; exact .seq hs (ih h)
  | bad hn _ => exact fun h => absurd h (validateUtf8_bad hn)

theorem and_192_of_lead (b m v : Nat) (hm : m &&& 192 = 192) (hv : v &&& 192 = 192) (h : b &&& m = v) : b &&& 192 = 192 := by
  have e : (b &&& m) &&& 192 = b &&& 192 := by rw [Nat.and_assoc, hm]
  rw [← e, h, hv]

theorem cont_ge (b : Nat) (h : Cont b) : 128 ≤ b := by
  have := @Nat.and_le_left b 192
  unfold Cont at h
  omega

theorem valid_head_not_cont (b : Nat) (r : List Nat) (h : Valid (b :: r)) : ¬ Cont b := by
  intro hc
  unfold Cont at hc
  cases h with
  | c1 _ _ hl _ => have := cont_ge b hc; unfold L1 at hl; omega
  | c2 _ _ _ hl _ _ => have := and_192_of_lead b 224 192 rfl rfl hl.2; omega
  | c3 _ _ _ _ hl _ _ _ => have := and_192_of_lead b 240 224 rfl rfl hl.2.2; omega
  | c4 _ _ _ _ _ hl _ _ _ _ => have := and_192_of_lead b 248 240 rfl rfl hl.2.2.2; omega

theorem validate_append (x y : List Nat) (h : Valid x) : validateUtf8 (x ++ y) = validateUtf8 y := by
  induction h using Valid.seq_rec with
  | nil => rfl
  | seq hs _ ih => rw [List.append_assoc, validateUtf8_seq hs]; exact ih

theorem validate_of_valid (xs : List Nat) (h : Valid xs) : validateUtf8 xs = 0 := by
  have := validate_append xs [] h
  rwa [List.append_nil] at this

theorem valid_iff (xs : List Nat) : Valid xs ↔ validateUtf8 xs = 0 := ⟨validate_of_valid xs, valid_of_validate xs⟩

theorem seq_cont_tail {v : Nat} {us : List Nat} (h : Seq8 v us) : ∀ c ∈ us.tail, Cont c := by
  cases h with
  | one => nofun
  | two _ h1 => simpa using h1
  | three _ h1 h2 => simpa using ⟨h1, h2⟩
  | four _ h1 h2 h3 => simpa using ⟨h1, h2, h3⟩

theorem valid_cut (s : List Nat) (h : Valid s) (i : Nat) (hi : ∀ b, s[i]? = some b → ¬ Cont b) :
    Valid (s.take i) ∧ Valid (s.drop i) := by
  induction h using Valid.seq_rec generalizing i with
  | nil => simp; exact .nil
  | @seq v us r hs hr ih =>
    rcases Nat.lt_or_ge i us.length with hlt | hge
    · -- a cut inside the first sequence is in front of it: behind its lead byte stand continuation bytes
      cases i with
      | zero => exact ⟨.nil, .seq hs hr⟩
      | succ j =>
        have e : us[j + 1]? = some us[j + 1] := List.getElem?_eq_getElem hlt
        have hc := seq_cont_tail hs _ (List.mem_of_getElem? (List.getElem?_tail.trans e))
        exact absurd hc (hi _ ((List.getElem?_append_left hlt).trans e))
    · have := ih (i - us.length) fun b hb => hi b ((List.getElem?_append_right hge).trans hb)
      rw [List.take_append, List.drop_append, List.take_of_length_le hge, List.drop_of_length_le hge]
      exact ⟨.seq hs this.1, this.2⟩

theorem fold_eq {b b' : Nat} (h : foldAscii b = foldAscii b') : (b < 128 ∧ b' < 128) ∨ b' = b := by
  unfold foldAscii at h
  split at h <;> split at h <;> omega

theorem eq_of_fold_eq {us ys : List Nat} (hg : ∀ b ∈ us, 128 ≤ b) (e : us.map foldAscii = ys.map foldAscii) : ys = us := by
  induction us generalizing ys with
  | nil => exact List.map_eq_nil_iff.1 e.symm
  | cons b t ih =>
    obtain ⟨b', t', rfl, h0, ht⟩ := List.map_eq_cons_iff.1 e.symm
    have := hg b List.mem_cons_self
    rw [ih (fun c hc => hg c (List.mem_cons_of_mem _ hc)) ht.symm, (fold_eq h0.symm).resolve_left (by omega)]

/-- a one-byte sequence stays one ASCII byte; a longer one consists of bytes from 0x80 on, which folding leaves alone -/
theorem seq_of_fold_eq {v : Nat} {us ys : List Nat} (h : Seq8 v us) (e : us.map foldAscii = ys.map foldAscii) :
    ∃ v', Seq8 v' ys := by
  cases h with
  | one h0 =>
    obtain ⟨b', rfl, hb⟩ := List.map_eq_singleton_iff.1 e.symm
    exact ⟨b', .one ((fold_eq hb.symm).elim (·.2) (· ▸ h0))⟩
  | two h0 h1 => exact eq_of_fold_eq (by simpa using ⟨Nat.le_of_not_lt h0.1, cont_ge _ h1⟩) e ▸ ⟨_, .two h0 h1⟩
  | three h0 h1 h2 =>
    exact eq_of_fold_eq (by simpa using ⟨Nat.le_of_not_lt h0.1, cont_ge _ h1, cont_ge _ h2⟩) e ▸ ⟨_, .three h0 h1 h2⟩
  | four h0 h1 h2 h3 =>
    exact eq_of_fold_eq (by simpa using ⟨Nat.le_of_not_lt h0.1, cont_ge _ h1, cont_ge _ h2, cont_ge _ h3⟩) e ▸
      ⟨_, .four h0 h1 h2 h3⟩

theorem valid_of_fold_eq (x y : List Nat) (hx : Valid x) (h : x.map foldAscii = y.map foldAscii) : Valid y := by
  induction hx using Valid.seq_rec generalizing y with
  | nil => rw [List.map_eq_nil_iff.1 h.symm]; exact .nil
  | seq hs _ ih =>
    rw [List.map_append] at h
    obtain ⟨y1, y2, rfl, h1, h2⟩ := List.map_eq_append_iff.1 h.symm
    obtain ⟨_, hs'⟩ := seq_of_fold_eq hs h1.symm
    exact .seq hs' (ih y2 h2.symm)

open StVerif.Spec.Split (splitAux)
open StVerif.Lemmas.Slice (firstOcc_some)

theorem window_valid (cs : CaseMode) (s sep : List Nat) (i : Nat) (hsep : Valid sep) (ho : occursAt cs s sep i) :
    Valid (window s i sep.length) := by
  have h := ho.2
  cases cs with
  | sensitive =>
    have : window s i sep.length = sep := h
    rw [this]; exact hsep
  | insensitive => exact valid_of_fold_eq sep _ hsep h.symm

theorem valid_around_occurrence (cs : CaseMode) (s sep : List Nat) (i : Nat) (hs : Valid s) (hsep : Valid sep)
    (hne : sep ≠ []) (ho : occursAt cs s sep i) :
    Valid (s.take i) ∧ Valid (s.drop (i + sep.length)) := by
  have hw := window_valid cs s sep i hsep ho
  have hpos : 0 < sep.length := List.length_pos_iff.2 hne
  have hcut : Valid (s.take i) ∧ Valid (s.drop i) := by
    apply valid_cut s hs i
    intro b hb
    -- `s[i]` is the first byte of the window, hence a lead byte
    have hd : (window s i sep.length).head? = some b := by
      unfold window; rw [List.head?_take, if_neg (by omega), List.head?_drop, hb]
    cases hwc : window s i sep.length with
    | nil => rw [hwc] at hd; cases hd
    | cons a t => rw [hwc] at hd hw; cases hd; exact valid_head_not_cont _ _ hw
  refine ⟨hcut.1, ?_⟩
  have hsplit : s.drop i = window s i sep.length ++ s.drop (i + sep.length) := by
    unfold window
    rw [← List.drop_drop, List.take_append_drop]
  have h2 := hcut.2
  rw [hsplit, valid_iff, validate_append _ _ hw] at h2
  exact (valid_iff _).2 h2

theorem splitAux_valid (cs : CaseMode) (sep : List Nat) (hsep : Valid sep) (fuel max : Nat) (s : List Nat) (hs : Valid s) :
    ∀ p ∈ splitAux cs sep fuel max s, Valid p :=
  Lemmas.Split.splitAux_forall cs sep
    (fun s i hs h => valid_around_occurrence cs s sep i hs hsep (firstOcc_some h).1 (firstOcc_some h).2.1) fuel max s hs

end StVerif.Lemmas.Utf8Split
