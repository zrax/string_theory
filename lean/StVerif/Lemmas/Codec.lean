/-
  What the codec proofs know about the four regenerated tables (checked by evaluation, once per table), and the two
  encoders with their mask-and-shift index expressions rewritten to `/` and `%`.
-/
import StVerif.Bits
import StVerif.Model.Codec
import StVerif.Spec.Rfc4648

namespace StVerif.Lemmas.Codec
open StVerif.Codec StVerif.Generated StVerif.Bits
open StVerif.Spec

/-- A single pass over the list: the kernel evaluates it a hundred times faster than a statement that fetches every index
    with `getD`, which walks the list each time. -/
def tableAll {α : Type} (l : List α) (n : Nat) (p : α → Nat → Bool) : Bool :=
  l.length == n && l.zipIdx.all fun (x, i) => p x i

theorem tableAll_getD {α : Type} {l : List α} {n : Nat} {p : α → Nat → Bool} (h : tableAll l n p = true)
    {i : Nat} (hi : i < n) (d : α) : p (l.getD i d) i = true := by
  simp only [tableAll, Bool.and_eq_true, beq_iff_eq, List.all_eq_true] at h
  apply h.2 (l.getD i d, i)
  simp [List.mk_mem_zipIdx_iff_getElem?, h.1, hi]

theorem hexChars_entries : tableAll hexChars 16 (fun ch i =>
    ch == Rfc4648.hexDigit i && hexVal ch == (i : Int) && hexVal (Rfc4648.upperHex ch) == (i : Int)) = true := by
  decide +kernel

theorem b64Chars_entries : tableAll b64Chars 64 (fun ch i =>
    ch == Rfc4648.alphabet i && b64Val ch == (i : Int)) = true := by
  decide +kernel

theorem hexValues_entries : tableAll hexValues 256 (fun v b =>
    decide (0 ≤ v) == Rfc4648.isHexDigit b && decide (v < 16)) = true := by
  decide +kernel

theorem b64Values_entries : tableAll b64Values 256 (fun v b =>
    decide (0 ≤ v) == Rfc4648.isB64Char b && decide (v < 64)) = true := by
  decide +kernel

theorem hexChar_spec {i : Nat} (h : i < 16) :
    hexChar i = Rfc4648.hexDigit i ∧ hexVal (hexChar i) = (i : Int) ∧ hexVal (Rfc4648.upperHex (hexChar i)) = (i : Int) := by
  simpa only [hexChar, Bool.and_eq_true, beq_iff_eq, and_assoc] using tableAll_getD hexChars_entries h 0

theorem b64Char_spec {i : Nat} (h : i < 64) : b64Char i = Rfc4648.alphabet i ∧ b64Val (b64Char i) = (i : Int) := by
  simpa only [b64Char, Bool.and_eq_true, beq_iff_eq] using tableAll_getD b64Chars_entries h 0

theorem hexVal_spec {b : Nat} (h : b < 256) : decide (0 ≤ hexVal b) = Rfc4648.isHexDigit b ∧ hexVal b < 16 := by
  have := tableAll_getD hexValues_entries h (-1)
  simp only [Bool.and_eq_true, beq_iff_eq, decide_eq_true_eq] at this
  exact this

theorem b64Val_spec {b : Nat} (h : b < 256) : decide (0 ≤ b64Val b) = Rfc4648.isB64Char b ∧ b64Val b < 64 := by
  have := tableAll_getD b64Values_entries h (-1)
  simp only [Bool.and_eq_true, beq_iff_eq, decide_eq_true_eq] at this
  exact this

theorem hexChar_eq_digit {i : Nat} (h : i < 16) : hexChar i = Rfc4648.hexDigit i := (hexChar_spec h).1
theorem hexVal_hexChar {i : Nat} (h : i < 16) : hexVal (hexChar i) = (i : Int) := (hexChar_spec h).2.1
theorem hexVal_upper {i : Nat} (h : i < 16) : hexVal (Rfc4648.upperHex (hexChar i)) = (i : Int) := (hexChar_spec h).2.2
theorem b64Char_eq_alphabet {i : Nat} (h : i < 64) : b64Char i = Rfc4648.alphabet i := (b64Char_spec h).1
theorem b64Val_b64Char {i : Nat} (h : i < 64) : b64Val (b64Char i) = (i : Int) := (b64Char_spec h).2
theorem hexVal_nonneg_iff' {b : Nat} (h : b < 256) : (0 ≤ hexVal b) ↔ Rfc4648.isHexDigit b = true := by
  rw [← (hexVal_spec h).1, decide_eq_true_iff]
theorem b64Val_nonneg_iff' {b : Nat} (h : b < 256) : (0 ≤ b64Val b) ↔ Rfc4648.isB64Char b = true := by
  rw [← (b64Val_spec h).1, decide_eq_true_iff]
theorem hexVal_lt' {b : Nat} (h : b < 256) : hexVal b < 16 := (hexVal_spec h).2
theorem b64Val_lt' {b : Nat} (h : b < 256) : b64Val b < 64 := (b64Val_spec h).2

theorem b64Val_eqSign : b64Val eqSign < 0 := by decide +kernel
theorem isB64Char_eqSign : Rfc4648.isB64Char 61 = false := by decide

theorem b64Char_ne_eq {i : Nat} (h : i < 64) : b64Char i ≠ eqSign := by
  intro he
  have hq := b64Val_eqSign
  rw [← he, b64Val_b64Char h] at hq
  omega

theorem hexEncode_cons {b : Nat} (hb : b < 256) (rest : List Nat) :
    hexEncode (b :: rest) = hexChar (b / 16) :: hexChar (b % 16) :: hexEncode rest := by
  rw [hexEncode, and_0F, and_0F, Nat.shiftRight_eq_div_pow, Nat.mod_eq_of_lt (Nat.div_lt_of_lt_mul hb)]

/-- The four 6-bit indices of a group of three bytes `a b c` (RFC 4648 §4).  A tail of two bytes or one is the group
    with zero for the missing bytes, cut after the third or second index, so the facts about a group serve the tails
    as well. -/
def sextet0 (a : Nat) : Nat := a / 4
def sextet1 (a b : Nat) : Nat := a % 4 * 16 + b / 16
def sextet2 (b c : Nat) : Nat := b % 16 * 4 + c / 64
def sextet3 (c : Nat) : Nat := c % 64

theorem sextet0_lt {a : Nat} (ha : a < 256) : sextet0 a < 64 := Nat.div_lt_of_lt_mul ha
theorem sextet1_lt (a : Nat) {b : Nat} (hb : b < 256) : sextet1 a b < 64 :=
  mul_add_lt (Nat.mod_lt a (Nat.zero_lt_succ 3)) (Nat.div_lt_of_lt_mul hb)
theorem sextet2_lt (b : Nat) {c : Nat} (hc : c < 256) : sextet2 b c < 64 :=
  mul_add_lt (Nat.mod_lt b (Nat.zero_lt_succ 15)) (Nat.div_lt_of_lt_mul hc)
theorem sextet3_lt (c : Nat) : sextet3 c < 64 := Nat.mod_lt c (by decide)

theorem idx_b64_1 (a : Nat) {b : Nat} (hb : b < 256) : ((a &&& 0x03) <<< 4) ||| ((b &&& 0xF0) >>> 4) = sextet1 a b := by
  rw [and_03, and_F0, Nat.shiftLeft_eq, Nat.shiftRight_eq_div_pow, Nat.mul_div_cancel _ (by decide),
    or_mul_eq_add _ _ 4 (Nat.mod_lt _ (by decide)), Nat.mod_eq_of_lt (Nat.div_lt_of_lt_mul hb)]
  rfl
theorem idx_b64_2 (b : Nat) {c : Nat} (hc : c < 256) : ((b &&& 0x0F) <<< 2) ||| ((c &&& 0xC0) >>> 6) = sextet2 b c := by
  rw [and_0F, and_C0, Nat.shiftLeft_eq, Nat.shiftRight_eq_div_pow, Nat.mul_div_cancel _ (by decide),
    or_mul_eq_add _ _ 2 (Nat.mod_lt _ (by decide)), Nat.mod_eq_of_lt (Nat.div_lt_of_lt_mul hc)]
  rfl
theorem idx_b64_t1 (a : Nat) : (a &&& 0x03) <<< 4 = sextet1 a 0 := by
  rw [and_03, Nat.shiftLeft_eq]; rfl
theorem idx_b64_t2 (b : Nat) : (b &&& 0x0F) <<< 2 = sextet2 b 0 := by
  rw [and_0F, Nat.shiftLeft_eq]; rfl

theorem b64Encode_cons3 (a : Nat) {b c : Nat} (hb : b < 256) (hc : c < 256) (rest : List Nat) :
    b64Encode (a :: b :: c :: rest) =
      b64Char (sextet0 a) :: b64Char (sextet1 a b) :: b64Char (sextet2 b c) :: b64Char (sextet3 c) :: b64Encode rest := by
  rw [b64Encode, idx_b64_1 a hb, idx_b64_2 b hc, and_3F, Nat.shiftRight_eq_div_pow]; rfl

theorem b64Encode_two (a : Nat) {b : Nat} (hb : b < 256) :
    b64Encode [a, b] = [b64Char (sextet0 a), b64Char (sextet1 a b), b64Char (sextet2 b 0), eqSign] := by
  rw [b64Encode, idx_b64_1 a hb, idx_b64_t2, Nat.shiftRight_eq_div_pow]; rfl

theorem b64Encode_one (a : Nat) : b64Encode [a] = [b64Char (sextet0 a), b64Char (sextet1 a 0), eqSign, eqSign] := by
  rw [b64Encode, idx_b64_t1, Nat.shiftRight_eq_div_pow]; rfl

/-- how `Rfc4648.b64Encode` reads a group or tail: the divisors are powers of 64, so the digits come off one by one -/
theorem base64_digits {n s0 s1 s2 s3 : Nat} (h0 : s0 < 64) (h1 : s1 < 64) (h2 : s2 < 64) (h3 : s3 < 64)
    (hn : n = ((s0 * 64 + s1) * 64 + s2) * 64 + s3) :
    n / 262144 % 64 = s0 ∧ n / 4096 % 64 = s1 ∧ n / 64 % 64 = s2 ∧ n % 64 = s3 := by
  subst hn
  simp only [show 262144 = 64 * 64 * 64 from rfl, show 4096 = 64 * 64 from rfl, ← Nat.div_div_eq_div_mul, mul_add_div_of_lt,
    Nat.mul_add_mod_of_lt, Nat.mod_eq_of_lt, h0, h1, h2, h3, and_self]

end StVerif.Lemmas.Codec
