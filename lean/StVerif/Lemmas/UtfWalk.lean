/-
  How UTF-8 and UTF-16 text is walked.  `Seq8 v us` / `Seq16 v us` say that the units `us` form one
  sequence by design with value `v`; `NoSeq S b r` that no sequence starts at the front of `b :: r`.
  Every function that walks text (the model's `decodeUtf8`, `validateUtf8`, `cleanupUtf8`, `decodeUtf16`,
  the specification's `segUtf8`, `segUtf16`) gets two equations, one for a sequence in front and one for
  a unit at which none starts; `seq_induction` then reduces any statement about a whole text to these
  two steps, so that the lead-byte case analysis is done here once per function.
-/
import StVerif.Lemmas.Utf
import StVerif.Lemmas.ListFacts

namespace StVerif.Lemmas.Utf8Split

abbrev Cont (b : Nat) : Prop := b &&& 0xC0 = 0x80
abbrev L1 (b : Nat) : Prop := b < 0x80
abbrev L2 (b : Nat) : Prop := ¬ b < 0x80 ∧ b &&& 0xE0 = 0xC0
abbrev L3 (b : Nat) : Prop := ¬ b < 0x80 ∧ ¬ b &&& 0xE0 = 0xC0 ∧ b &&& 0xF0 = 0xE0
abbrev L4 (b : Nat) : Prop := ¬ b < 0x80 ∧ ¬ b &&& 0xE0 = 0xC0 ∧ ¬ b &&& 0xF0 = 0xE0 ∧ b &&& 0xF8 = 0xF0

end StVerif.Lemmas.Utf8Split

namespace StVerif.Lemmas.Utf
open StVerif.Utf StVerif.Generated StVerif.Spec.Unicode
open StVerif.Lemmas.Utf8Split (Cont L1 L2 L3 L4)

variable {b v : Nat} {us r : List Nat}

def NoSeq (S : Nat → List Nat → Prop) (b : Nat) (r : List Nat) : Prop := ∀ {v us t}, S v us → b :: r ≠ us ++ t

theorem seq_induction {S : Nat → List Nat → Prop} (hS : ∀ {v us}, S v us → us ≠ []) {P : List Nat → Prop} (nil : P [])
    (seq : ∀ {v us} (r : List Nat), S v us → P r → P (us ++ r)) (bad : ∀ {b r}, NoSeq S b r → P r → P (b :: r)) :
    ∀ xs, P xs
  | [] => nil
  | b :: r => by
    by_cases h : ∃ v us t, S v us ∧ b :: r = us ++ t
    · obtain ⟨v, us, t, hs, e⟩ := h
      have : t.length < (b :: r).length := by
        have := List.length_pos_iff.2 (hS hs)
        rw [e, List.length_append]; omega
      rw [e]; exact seq t hs (seq_induction hS nil seq bad t)
    · exact bad (fun hs e => h ⟨_, _, _, hs, e⟩) (seq_induction hS nil seq bad r)
termination_by xs => xs.length
-- by hand: the default tactic tries a long list of lemmas before these two
decreasing_by
  · assumption
  · exact Nat.lt_succ_self _

theorem L2_iff (h : b < 256) : L2 b ↔ 0xC0 ≤ b ∧ b < 0xE0 := by
  -- the mask 0xE0 is the three bits above bit 5, and 0xC0 = 6 * 2^5 says that they are 110
  unfold L2; rw [Bits.and_mask_eq_iff 3 5 6 h]
  exact ⟨fun l => l.2, fun r => ⟨by omega, r⟩⟩
theorem L3_iff (h : b < 256) : L3 b ↔ 0xE0 ≤ b ∧ b < 0xF0 := by
  unfold L3; rw [Bits.and_mask_eq_iff 3 5 6 h, Bits.and_mask_eq_iff 4 4 14 h]
  exact ⟨fun l => l.2.2, fun r => ⟨by omega, by omega, r⟩⟩
theorem L4_iff (h : b < 256) : L4 b ↔ 0xF0 ≤ b ∧ b < 0xF8 := by
  unfold L4; rw [Bits.and_mask_eq_iff 3 5 6 h, Bits.and_mask_eq_iff 4 4 14 h, Bits.and_mask_eq_iff 5 3 30 h]
  exact ⟨fun l => l.2.2.2, fun r => ⟨by omega, by omega, by omega, r⟩⟩
theorem Cont_iff (h : b < 256) : Cont b ↔ isCont b = true := by
  unfold Cont isCont
  rw [Bits.and_mask_eq_iff 2 6 2 h, Bool.and_eq_true, decide_eq_true_eq, decide_eq_true_eq]

theorem L2_of_range (h : 0xC0 ≤ b ∧ b < 0xE0) : L2 b := (L2_iff (Nat.lt_trans h.2 (by decide))).2 h
theorem L3_of_range (h : 0xE0 ≤ b ∧ b < 0xF0) : L3 b := (L3_iff (Nat.lt_trans h.2 (by decide))).2 h
theorem L4_of_range (h : 0xF0 ≤ b ∧ b < 0xF8) : L4 b := (L4_iff (Nat.lt_trans h.2 (by decide))).2 h
theorem Cont_of_isCont (h : isCont b = true) : Cont b :=
  (Cont_iff (Nat.lt_trans (isCont_range h).2 (by decide))).2 h
theorem Cont_of_not (h : ¬ b &&& 0xC0 ≠ 0x80) : Cont b := Decidable.not_not.1 h

theorem mod64_lt (x : Nat) : x % 64 < 64 := Nat.mod_lt x (by decide)

theorem isCont_mod (h : isCont b = true) : b % 64 = b - 0x80 := Bits.mod_of_range 64 (by decide) (isCont_range h)

theorem isCont_add (x : Nat) : isCont (0x80 + x % 64) = true := by
  simp only [isCont, Bool.and_eq_true, decide_eq_true_eq]; exact Bits.range_add (mod64_lt x)

/-- `us` is a UTF-8 sequence by design: a lead byte of one of the four classes the code tests for,
    followed by that class's number of continuation bytes (overlong forms, surrogates and values above
    10FFFF included); `v` is the value the decoder extracts from it, each continuation byte
    appending its six bits -/
inductive Seq8 : Nat → List Nat → Prop
  | one {b : Nat} : L1 b → Seq8 b [b]
  | two {b0 b1} : L2 b0 → Cont b1 → Seq8 (b0 % 32 * 64 + b1 % 64) [b0, b1]
  | three {b0 b1 b2} : L3 b0 → Cont b1 → Cont b2 → Seq8 ((b0 % 16 * 64 + b1 % 64) * 64 + b2 % 64) [b0, b1, b2]
  | four {b0 b1 b2 b3} : L4 b0 → Cont b1 → Cont b2 → Cont b3 →
      Seq8 (((b0 % 8 * 64 + b1 % 64) * 64 + b2 % 64) * 64 + b3 % 64) [b0, b1, b2, b3]

theorem Seq8.ne_nil (h : Seq8 v us) : us ≠ [] := by
  cases h <;> exact List.cons_ne_nil _ _

theorem Seq8.lt (h : Seq8 v us) : v < 0x200000 := by
  -- one step per continuation byte, from the bound of the lead byte's payload
  have step {a n : Nat} (x : Nat) (ha : a < n) : a * 64 + x % 64 < n * 64 := Bits.mul_add_lt ha (mod64_lt x)
  cases h with
  | one h0 => exact Nat.lt_trans h0 (by decide)
  | two => exact Nat.lt_trans (step _ (Nat.mod_lt _ (by decide))) (by decide)
  | three => exact Nat.lt_trans (step _ (step _ (Nat.mod_lt _ (by decide)))) (by decide)
  | four => exact step _ (step _ (step _ (Nat.mod_lt _ (by decide))))

theorem seq8_induction {P : List Nat → Prop} (nil : P []) (seq : ∀ {v us} (r : List Nat), Seq8 v us → P r → P (us ++ r))
    (bad : ∀ {b r}, NoSeq Seq8 b r → P r → P (b :: r)) (xs : List Nat) : P xs :=
  seq_induction Seq8.ne_nil nil seq bad xs

/-! the walkers on a sequence in front: the hypotheses of its constructor are the tests on the path taken -/

theorem decodeUtf8_seq (h : Seq8 v us) (r : List Nat) : decodeUtf8 (us ++ r) = v :: decodeUtf8 r := by
  rw [decodeUtf8.eq_def]
  cases h <;> simp only [List.cons_append, List.nil_append, *, val2, val3, val4, ↓reduceIte, ne_eq, not_true_eq_false, or_self]

theorem validateUtf8_seq (h : Seq8 v us) (r : List Nat) : validateUtf8 (us ++ r) = validateUtf8 r := by
  rw [validateUtf8.eq_def]
  cases h <;> simp only [List.cons_append, List.nil_append, *, ↓reduceIte, ne_eq, not_true_eq_false]

theorem cleanupUtf8_seq (h : Seq8 v us) (r : List Nat) : cleanupUtf8 (us ++ r) = us ++ cleanupUtf8 r := by
  rw [cleanupUtf8.eq_def]
  cases h <;> simp only [List.cons_append, List.nil_append, *, ↓reduceIte, ne_eq, not_true_eq_false, or_self]

/-- the specification tests ranges where the code tests masks, which is the same on bytes only -/
theorem segUtf8_seq (h : Seq8 v us) (hb : Bytes us) (r : List Nat) : segUtf8 (us ++ r) = .good v us :: segUtf8 r := by
  rw [segUtf8.eq_def]
  cases h with
  | one h0 => simp only [List.cons_append, List.nil_append, h0, ↓reduceIte]
  | @two b0 b1 h0 h1 =>
    simp only [Bytes_cons] at hb
    have r0 := (L2_iff hb.1).1 h0
    have c1 := (Cont_iff hb.2.1).1 h1
    simp only [List.cons_append, List.nil_append, h0.1, r0, c1, and_self, ↓reduceIte, Bits.mod_of_range 32 (by decide) r0,
      isCont_mod c1]
  | @three b0 b1 b2 h0 h1 h2 =>
    simp only [Bytes_cons] at hb
    have r0 := (L3_iff hb.1).1 h0
    have c1 := (Cont_iff hb.2.1).1 h1
    have c2 := (Cont_iff hb.2.2.1).1 h2
    have n2 : ¬ (0xC0 ≤ b0 ∧ b0 < 0xE0) := by omega
    simp only [List.cons_append, List.nil_append, h0.1, n2, r0, c1, c2, and_self, Bool.and_self, ↓reduceIte,
      Bits.mod_of_range 16 (by decide) r0, isCont_mod c1, isCont_mod c2, Nat.add_mul, Nat.mul_assoc, Nat.reduceMul]
  | @four b0 b1 b2 b3 h0 h1 h2 h3 =>
    simp only [Bytes_cons] at hb
    have r0 := (L4_iff hb.1).1 h0
    have c1 := (Cont_iff hb.2.1).1 h1
    have c2 := (Cont_iff hb.2.2.1).1 h2
    have c3 := (Cont_iff hb.2.2.2.1).1 h3
    have n2 : ¬ (0xC0 ≤ b0 ∧ b0 < 0xE0) := by omega
    have n3 : ¬ (0xE0 ≤ b0 ∧ b0 < 0xF0) := by omega
    simp only [List.cons_append, List.nil_append, h0.1, n2, n3, r0, c1, c2, c3, and_self, Bool.and_self, ↓reduceIte,
      Bits.mod_of_range 8 (by decide) r0, isCont_mod c1, isCont_mod c2, isCont_mod c3, Nat.add_mul, Nat.mul_assoc, Nat.reduceMul]

/-! the walkers on a unit at which no sequence starts: each path of the function either ends in its
    malformed-unit branch or has just tested what makes a sequence.  The cases are the paths of the
    definition in the order it is written; a path that has tested a whole sequence names the constructor of
    `Seq8` / `Seq16` it contradicts, the others are listed by what is wrong with the unit. -/

theorem decodeUtf8_bad (h : NoSeq Seq8 b r) :
    ∃ e, (e = errIncompleteUtf8 ∨ e = errInvalidUtf8) ∧ decodeUtf8 (b :: r) = errorChar e :: decodeUtf8 r := by
  generalize hx : b :: r = xs
  fun_cases decodeUtf8 xs with
  | case1 => cases hx
  | case2 b0 rest _ h1 => cases hx; exact absurd rfl (h (.one h1))
  | case4 b0 hn h2 b1 r c1 => cases hx; exact absurd rfl (h (.two ⟨hn, h2⟩ (Cont_of_not c1)))
  | case7 b0 hn h2 h3 b1 b2 r c =>
    cases hx
    have c := not_or.1 c
    exact absurd rfl (h (.three ⟨hn, h2, h3⟩ (Cont_of_not c.1) (Cont_of_not c.2)))
  | case10 b0 hn h2 h3 h4 b1 b2 b3 r c =>
    cases hx
    have c := not_or.1 c
    have c' := not_or.1 c.2
    exact absurd rfl (h (.four ⟨hn, h2, h3, h4⟩ (Cont_of_not c.1) (Cont_of_not c'.1) (Cont_of_not c'.2)))
  -- a lead byte of two, three, four: a byte after it is no continuation byte (3, 6, 9) or the text ends first (5, 8, 11)
  | case3 | case5 | case6 | case8 | case9 | case11 => cases hx; exact ⟨_, .inl rfl, rfl⟩
  -- no lead byte
  | case12 => cases hx; exact ⟨_, .inr rfl, rfl⟩

theorem validateUtf8_bad (h : NoSeq Seq8 b r) : validateUtf8 (b :: r) ≠ 0 := by
  generalize hx : b :: r = xs
  fun_cases validateUtf8 xs with
  | case1 => cases hx
  | case2 b0 rest h1 => cases hx; exact absurd rfl (h (.one h1))
  | case4 b0 hn h2 b1 r c1 => cases hx; exact absurd rfl (h (.two ⟨hn, h2⟩ (Cont_of_not c1)))
  | case8 b0 hn h2 h3 b1 b2 r c1 c2 =>
    cases hx; exact absurd rfl (h (.three ⟨hn, h2, h3⟩ (Cont_of_not c1) (Cont_of_not c2)))
  | case13 b0 hn h2 h3 h4 b1 b2 b3 r c1 c2 c3 =>
    cases hx; exact absurd rfl (h (.four ⟨hn, h2, h3, h4⟩ (Cont_of_not c1) (Cont_of_not c2) (Cont_of_not c3)))
  -- a lead byte of two, three, four: a byte after it is no continuation byte (3; 6, 7; 10, 11, 12) or the text ends
  -- first (5, 9, 14); no lead byte (15): the result is one of the two nonzero codes
  | case3 | case5 | case6 | case7 | case9 | case10 | case11 | case12 | case14 | case15 => decide

theorem cleanupUtf8_bad (h : NoSeq Seq8 b r) : cleanupUtf8 (b :: r) = badcharSubstituteUtf8 ++ cleanupUtf8 r := by
  generalize hx : b :: r = xs
  fun_cases cleanupUtf8 xs with
  | case1 => cases hx
  | case2 b0 rest h1 => cases hx; exact absurd rfl (h (.one h1))
  | case4 b0 hn h2 b1 r c1 => cases hx; exact absurd rfl (h (.two ⟨hn, h2⟩ (Cont_of_not c1)))
  | case7 b0 hn h2 h3 b1 b2 r c =>
    cases hx
    have c := not_or.1 c
    exact absurd rfl (h (.three ⟨hn, h2, h3⟩ (Cont_of_not c.1) (Cont_of_not c.2)))
  | case10 b0 hn h2 h3 h4 b1 b2 b3 r c =>
    cases hx
    have c := not_or.1 c
    have c' := not_or.1 c.2
    exact absurd rfl (h (.four ⟨hn, h2, h3, h4⟩ (Cont_of_not c.1) (Cont_of_not c'.1) (Cont_of_not c'.2)))
  -- the same malformed paths as in `decodeUtf8_bad`, and no lead byte (12)
  | case3 | case5 | case6 | case8 | case9 | case11 | case12 => cases hx; rfl

theorem segUtf8_bad (h : NoSeq Seq8 b r) : segUtf8 (b :: r) = .bad b :: segUtf8 r := by
  generalize hx : b :: r = xs
  fun_cases segUtf8 xs with
  | case1 => cases hx
  | case2 b0 rest _ h1 => cases hx; exact absurd rfl (h (.one h1))
  | case3 b0 hn hr b1 r hc => cases hx; exact absurd rfl (h (.two (L2_of_range hr) (Cont_of_isCont hc)))
  | case6 b0 hn hn2 hr b1 b2 r hc =>
    cases hx
    rw [Bool.and_eq_true] at hc
    exact absurd rfl (h (.three (L3_of_range hr) (Cont_of_isCont hc.1) (Cont_of_isCont hc.2)))
  | case9 b0 hn hn2 hn3 hr b1 b2 b3 r hc =>
    cases hx
    simp only [Bool.and_eq_true] at hc
    exact absurd rfl (h (.four (L4_of_range hr) (Cont_of_isCont hc.1.1) (Cont_of_isCont hc.1.2) (Cont_of_isCont hc.2)))
  -- a lead byte of two, three, four: the bytes after it are not all continuation bytes (4, 7, 10) or the text ends
  -- first (5, 8, 11); no lead byte (12)
  | case4 | case5 | case7 | case8 | case10 | case11 | case12 => cases hx; rfl

theorem seq8_enc {c : Nat} (hc : c < 0x200000) : Seq8 c (encUtf8 c) := by
  unfold encUtf8
  have c1 := isCont_add (c / 4096)
  have c2 := isCont_add (c / 64)
  have c3 := isCont_add c
  by_cases h1 : c < 0x80
  · rw [if_pos h1]; exact .one h1
  · by_cases h2 : c < 0x800
    · rw [if_neg h1, if_pos h2]
      have h0 := Bits.range_add (lo := 0xC0) (Nat.div_lt_of_lt_mul h2 : c / 64 < 32)
      have := Seq8.two (L2_of_range h0) (Cont_of_isCont c3)
      simp only [Bits.mod_of_range _ (by decide) h0, isCont_mod c3, Nat.add_sub_cancel_left] at this
      rwa [Nat.div_add_mod'] at this
    · by_cases h3 : c < 0x10000
      · rw [if_neg h1, if_neg h2, if_pos h3]
        have h0 := Bits.range_add (lo := 0xE0) (Nat.div_lt_of_lt_mul h3 : c / 4096 < 16)
        have := Seq8.three (L3_of_range h0) (Cont_of_isCont c2) (Cont_of_isCont c3)
        simp only [Bits.mod_of_range _ (by decide) h0, isCont_mod c2, isCont_mod c3, Nat.add_sub_cancel_left] at this
        rwa [Bits.digit_split c 64 64, Nat.div_add_mod'] at this
      · rw [if_neg h1, if_neg h2, if_neg h3]
        have h0 := Bits.range_add (lo := 0xF0) (Nat.div_lt_of_lt_mul hc : c / 262144 < 8)
        have := Seq8.four (L4_of_range h0) (Cont_of_isCont c1) (Cont_of_isCont c2) (Cont_of_isCont c3)
        simp only [Bits.mod_of_range _ (by decide) h0, isCont_mod c1, isCont_mod c2, isCont_mod c3, Nat.add_sub_cancel_left] at this
        rwa [Bits.digit_split c 64 4096, Bits.digit_split c 64 64, Nat.div_add_mod'] at this

theorem isHigh_iff (u : Nat) : isHigh u = true ↔ 0xD800 ≤ u ∧ u < 0xDC00 := by simp [isHigh]
theorem isLow_iff (u : Nat) : isLow u = true ↔ 0xDC00 ≤ u ∧ u < 0xE000 := by simp [isLow]

/-- `us` is a UTF-16 sequence by design: a unit outside the surrogate range, a high+low pair, or the
    tolerated low+high pair; `v` is the value the decoder extracts from it -/
inductive Seq16 : Nat → List Nat → Prop
  | one {u} : ¬ (0xD800 ≤ u ∧ u < 0xE000) → Seq16 u [u]
  | hl {u0 u1} : 0xD800 ≤ u0 ∧ u0 < 0xDC00 → 0xDC00 ≤ u1 ∧ u1 < 0xE000 →
      Seq16 (0x10000 + (u0 - 0xD800) * 1024 + (u1 - 0xDC00)) [u0, u1]
  | lh {u0 u1} : 0xDC00 ≤ u0 ∧ u0 < 0xE000 → 0xD800 ≤ u1 ∧ u1 < 0xDC00 →
      Seq16 (0x10000 + (u0 - 0xDC00) + (u1 - 0xD800) * 1024) [u0, u1]

theorem Seq16.ne_nil (h : Seq16 v us) : us ≠ [] := by
  cases h <;> exact List.cons_ne_nil _ _

theorem Seq16.le (h : Seq16 v us) (hu : UnitsLt 65536 us) : v ≤ 0x10FFFF := by
  cases h with
  | one => have := (UnitsLt_cons.1 hu).1; omega
  | hl => omega
  | lh => omega

theorem seq16_induction {P : List Nat → Prop} (nil : P []) (seq : ∀ {v us} (r : List Nat), Seq16 v us → P r → P (us ++ r))
    (bad : ∀ {u r}, NoSeq Seq16 u r → P r → P (u :: r)) (xs : List Nat) : P xs :=
  seq_induction Seq16.ne_nil nil seq bad xs

theorem decodeUtf16_seq (h : Seq16 v us) (r : List Nat) : decodeUtf16 (us ++ r) = v :: decodeUtf16 r := by
  rw [decodeUtf16.eq_def]
  cases h with
  | one h0 => simp only [List.cons_append, List.nil_append]; rw [if_neg (by omega)]
  | hl h0 h1 =>
    simp only [List.cons_append, List.nil_append]
    rw [if_pos (by omega), if_pos h0.2, if_pos ⟨h1.1, Nat.le_of_lt_succ h1.2⟩, val16_hl _ _ h0 h1]
  | lh h0 h1 =>
    simp only [List.cons_append, List.nil_append]
    rw [if_pos (by omega), if_neg (Nat.not_lt.2 h0.1), if_pos ⟨h1.1, Nat.le_of_lt_succ h1.2⟩, val16_lh _ _ h0 h1]

theorem segUtf16_seq (h : Seq16 v us) (r : List Nat) : segUtf16 (us ++ r) = .good v us :: segUtf16 r := by
  rw [segUtf16.eq_def]
  cases h with
  | one h0 =>
    have a : isHigh v = false := by rw [← Bool.not_eq_true, isHigh_iff]; omega
    have b : isLow v = false := by rw [← Bool.not_eq_true, isLow_iff]; omega
    simp only [List.cons_append, List.nil_append, a, b, Bool.false_eq_true, ↓reduceIte]
  | hl h0 h1 => simp only [List.cons_append, List.nil_append, (isHigh_iff _).2 h0, (isLow_iff _).2 h1, ↓reduceIte]
  | @lh u0 u1 h0 h1 =>
    have a : isHigh u0 = false := by rw [← Bool.not_eq_true, isHigh_iff]; omega
    simp only [List.cons_append, List.nil_append, a, (isLow_iff _).2 h0, (isHigh_iff _).2 h1, Bool.false_eq_true, ↓reduceIte]

theorem decodeUtf16_bad {u : Nat} (h : NoSeq Seq16 u r) :
    decodeUtf16 (u :: r) = errorChar errIncompleteSurrogate :: decodeUtf16 r := by
  generalize hx : u :: r = xs
  fun_cases decodeUtf16 xs with
  | case1 => cases hx
  | case3 u0 hs u1 r hh hl => cases hx; exact absurd rfl (h (.hl (by omega) (by omega)))
  | case5 u0 hs u1 r hh hl => cases hx; exact absurd rfl (h (.lh (by omega) (by omega)))
  | case7 u0 r _ hs => cases hx; exact absurd rfl (h (.one (by omega)))
  -- a surrogate at the end of the text (2), a high one not followed by a low one (4), a low one not followed by a high one (6)
  | case2 | case4 | case6 => cases hx; rfl

theorem segUtf16_bad {u : Nat} (h : NoSeq Seq16 u r) : segUtf16 (u :: r) = .bad u :: segUtf16 r := by
  generalize hx : u :: r = xs
  fun_cases segUtf16 xs with
  | case1 => cases hx
  | case2 u0 hh u1 r hl => cases hx; exact absurd rfl (h (.hl ((isHigh_iff _).1 hh) ((isLow_iff _).1 hl)))
  | case5 u0 _ hl u1 r hh => cases hx; exact absurd rfl (h (.lh ((isLow_iff _).1 hl) ((isHigh_iff _).1 hh)))
  | case8 u0 r _ hh hl =>
    cases hx
    rw [isHigh_iff] at hh; rw [isLow_iff] at hl
    exact absurd rfl (h (.one (by omega)))
  -- a high surrogate not followed by a low one (3) or at the end (4), a low one not followed by a high one (6) or at the end (7)
  | case3 | case4 | case6 | case7 => cases hx; rfl

theorem seq16_enc {c : Nat} (hs : Scalar c) : Seq16 c (encUtf16 c) := by
  obtain ⟨hlt, hns⟩ := hs
  unfold encUtf16
  by_cases h1 : c < 0x10000
  · rw [if_pos h1]; exact .one hns
  · rw [if_neg h1]
    have hd : (c - 0x10000) / 1024 < 1024 := Nat.div_lt_of_lt_mul (by omega)
    have hm : (c - 0x10000) % 1024 < 1024 := Nat.mod_lt _ (by decide)
    have := Seq16.hl (Bits.range_add (lo := 0xD800) hd) (Bits.range_add (lo := 0xDC00) hm)
    rwa [Nat.add_sub_cancel_left, Nat.add_sub_cancel_left, Nat.add_assoc, Nat.div_add_mod',
      Nat.add_sub_cancel' (Nat.le_of_not_lt h1)] at this

end StVerif.Lemmas.Utf
