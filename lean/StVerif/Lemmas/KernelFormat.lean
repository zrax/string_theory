/-
  Bridge for the layout routines of the formatter (translated functions in StVerif/Generated/Kernels.lean, models in
  StVerif/Model/FmtRender.lean).  In the translated functions the `ST::format_writer &output` parameter is the list of
  the calls made on it, the `const ST::format_spec &` parameter one parameter per field read.

  `_ST_PRIVATE::pad_size`, `format_numeric_prefix` and `format_numeric_string` (include/st_format_priv.h): for every
  width an `int` can hold and every size below 2^62 none of the signed subtractions (`chkS 64`) faults, i.e. the C++
  function has no signed overflow there.

  `ST::format_string` (include/st_formatter.h), the padding / truncation routine of every text-like format argument:
  the narrowing `static_cast<int>(size)` of a size of 2^31 or more wraps the same way on both sides (`toI32`), the
  unsigned `format.minimum_length - size` is `wrap64`.
-/
import StVerif.Generated.Kernels
import StVerif.Model.FmtRender
import StVerif.Lemmas.MachineInt
open StVerif.Cxx StVerif.Generated StVerif.Fmt

namespace StVerif.KernelBridge

/-- the enumerator values of `ST::digit_class_t` -/
def digitCode : DigitClass → Int
  | .dflt => 0
  | .dec => 1
  | .hex => 2
  | .hexUpper => 3
  | .oct => 4
  | .bin => 5
  | .chr => 6

/-- the enumerator values of `_ST_PRIVATE::numeric_type` -/
def numCode : NumType → Int
  | .positive => 0
  | .negative => 1
  | .zero => 2

/-- the translated `static_cast<size_t>(format.precision)` is the model's `wrap64` -/
theorem size_cast_eq (p : Int) : (p % 18446744073709551616).toNat = wrap64 p := rfl

/-- the translated `format.minimum_length - size` (the `int` converted to `size_t`, the unsigned subtraction), after
    `size_cast_eq` has turned the conversion of the `int` into `wrap64` -/
theorem unsigned_sub_eq (ml : Int) (n : Nat) (hn : n < 2 ^ 64) :
    ((wrap64 ml : Int) - n + 18446744073709551616).toNat % 18446744073709551616 = wrap64 (ml - n) :=
  calc _ = wrap64 (wrap64 ml - n + 2 ^ 64) := (Int.toNat_emod (by omega) (by decide)).symm
    _ = wrap64 (wrap64 ml - n) := wrapW_add_pow 64 _
    _ = _ := wrap64_add_wrap64 ml (-n)

/-- what the translator writes for the conversion of an unsigned value to a signed type of `w` bits -/
theorem signed_cast_eq (w n : Nat) (hw : 0 < w := by decide) :
    ((n : Int) + 2 ^ (w - 1)) % 2 ^ w - 2 ^ (w - 1) = toSigned w n := by
  have e2 : (2 : Int) ^ (w - 1) * 2 = 2 ^ w := by rw [← Int.pow_succ, Nat.succ_eq_add_one, Nat.sub_add_cancel hw]
  have hp : (0 : Int) < 2 ^ w := Int.pow_pos (by decide)
  have h0 := Int.emod_nonneg ((n : Int) + 2 ^ (w - 1)) (Int.ne_of_gt hp)
  have h1 := Int.emod_lt_of_pos ((n : Int) + 2 ^ (w - 1)) hp
  exact (toSigned_eq hw (by omega) (by omega) (by rw [Int.emod_sub_emod, Int.add_sub_cancel])).symm

/-- the translated `static_cast<int>(size)` is the model's `toI32` -/
theorem narrow_int_eq (n : Nat) : ((n : Int) + 2147483648) % 4294967296 - 2147483648 = toI32 n :=
  signed_cast_eq 32 n

/-- the translated conversion to `ST_ssize_t` is the model's `toI64` -/
theorem ssize_cast_eq (n : Nat) :
    ((n : Int) + 9223372036854775808) % 18446744073709551616 - 9223372036854775808 = toI64 n :=
  signed_cast_eq 64 n

theorem chkS64_ok (x : Int) (h : -(2:Int)^63 ≤ x ∧ x < (2:Int)^63) : chkS 64 x = .ok x :=
  if_pos h

/-- `q > 0 ? q : 0` converted to `size_t`, whichever way the C++ writes the test `c` and orders the branches (one
    statement for both orders: `simp` takes the half that fits) -/
theorem clamp_eq {c : Prop} [Decidable c] {q : Int} (hq : q < 2 ^ 64) :
    ((c ↔ 0 < q) → (if c then wrap64 q else 0) = q.toNat) ∧
      ((c ↔ q ≤ 0) → (if c then 0 else wrap64 q) = q.toNat) := by
  constructor <;> intro hc <;> simp only [hc] <;> split
  · exact wrap64_of_nonneg (Int.le_of_lt ‹_›) hq
  · exact (Int.toNat_of_nonpos (Int.not_lt.mp ‹_›)).symm
  · exact (Int.toNat_of_nonpos ‹_›).symm
  · exact wrap64_of_nonneg (Int.le_of_lt (Int.not_le.mp ‹_›)) hq

theorem toNat_ite (q : Int) : (if q > 0 then q.toNat else 0) = q.toNat := by
  split <;> omega

theorem numCode_eq_one (nt : NumType) : numCode nt = 1 ↔ nt = .negative := by cases nt <;> decide
theorem numCode_ne_two (nt : NumType) : numCode nt ≠ 2 ↔ nt ≠ .zero := by cases nt <;> decide

theorem pad_size_eq (f : FormatSpec) (size : Nat) (nt : NumType)
    (hmin : -(2:Int)^31 ≤ f.minimumLength ∧ f.minimumLength < (2:Int)^31) (hsize : size < 2 ^ 62) :
    Kernels.pad_size (if f.alwaysSigned then 1 else 0) (if f.classPrefix then 1 else 0)
      (digitCode f.digitClass) f.minimumLength size (numCode nt) = .ok (padSize f size nt) := by
  generalize hp : f.minimumLength - (size : Int) = p
  have hp0 : -(2:Int)^63 + 3 ≤ p := by omega
  have hp1 : p < (2:Int)^63 := by omega
  unfold Kernels.pad_size padSize
  /- The first statement `ST_ssize_t pad_size = format.minimum_length - size;` is the model's, and is `p`; none of the
     subtractions that follow faults. -/
  simp only [size_cast_eq, unsigned_sub_eq _ _ (Nat.lt_trans hsize (by decide)), ssize_cast_eq, hp,
    toI64_wrap64 p (by omega) hp1, Int.sub_sub, Int.reduceAdd, chkS64_ok (p - 1) (by omega),
    chkS64_ok (p - 2) (by omega), chkS64_ok (p - 3) (by omega), ok_bind, pure_eq_ok, toNat_ite, ite_cascade_or,
    ite_cascade_and, numCode_eq_one, numCode_ne_two, flag_ne_zero]
  clear hmin hsize hp hp0
  /- Now the translated function tests what the model tests: the prefix and the sign.  In each of the four cases
     `clamp_eq` turns the last statement, which stands at every leaf, into the model's (`omega` shows that its test, in
     whichever form the C++ writes it, says `0 < q`); then the digit class decides. -/
  by_cases h2 : nt ≠ .zero ∧ f.classPrefix = true <;> by_cases h1 : nt = .negative ∨ f.alwaysSigned = true <;>
    simp (disch := omega) only [h1, h2, ↓reduceIte, ne_eq, not_false_eq_true, and_self, clamp_eq] <;>
    cases f.digitClass <;>
    simp only [digitCode, ↓reduceIte, Int.reduceEq, or_self, or_true, true_or, Int.sub_sub, Int.reduceAdd]

def evOf : Ev → Fmt.Event
  | .append bs => .append bs
  | .appendChar c n => .appendChar c n

def ofEvent : Fmt.Event → Ev
  | .append bs => .append bs
  | .appendChar c n => .appendChar c n

@[simp] theorem evOf_ofEvent (e : Fmt.Event) : evOf (ofEvent e) = e := by cases e <;> rfl
@[simp] theorem ofEvent_evOf (e : Ev) : ofEvent (evOf e) = e := by cases e <;> rfl

theorem map_evOf_map_ofEvent (l : List Fmt.Event) : (l.map ofEvent).map evOf = l := by
  simp [Function.comp_def]

theorem map_ofEvent_map_evOf (l : List Ev) : (l.map evOf).map ofEvent = l := by
  simp [Function.comp_def]

/-- the enumerator values of `ST::alignment_t` -/
def alignCode : Align → Int
  | .dflt => 0
  | .left => 1
  | .right => 2

theorem rdRange_all (text : List Nat) : rdRange text 0 text.length = .ok text := by
  simp [rdRange]

/-- `char pad = format.pad ? format.pad : ' '` and its conversion back to the byte `append_char` stores -/
theorem pad_char_eq (b : Nat) (hb : b < 256) :
    ((if toChar b ≠ (0 : Int) then toChar b else (32 : Int)) % 256).toNat = (if b ≠ 0 then b else 32) := by
  have e : toChar b % 256 = b := by
    unfold toChar
    rw [apply_ite (· % (256 : Int)), Int.sub_emod_right, ite_self]
    exact Int.emod_eq_of_lt (Int.natCast_nonneg b) (Int.ofNat_lt.mpr hb)
  by_cases h0 : b = 0
  · subst h0; rfl
  · rw [if_pos h0, if_pos (by omega), e]; rfl

theorem format_numeric_prefix_eq (f : FormatSpec) (nt : NumType) :
    Kernels.format_numeric_prefix (if f.alwaysSigned then 1 else 0) (if f.classPrefix then 1 else 0)
      (digitCode f.digitClass) (numCode nt) = .ok ((numericPrefix f nt).map ofEvent) := by
  -- the translated function stays folded: `rfl` evaluates it, and `cases` has a small goal to split
  unfold numericPrefix
  cases f.classPrefix
  · cases f.alwaysSigned <;> cases nt <;> rfl
  · cases f.alwaysSigned <;> cases nt <;> cases f.digitClass <;> rfl

theorem format_numeric_prefix_events (f : FormatSpec) (nt : NumType) :
    ∃ evs, Kernels.format_numeric_prefix (if f.alwaysSigned then 1 else 0) (if f.classPrefix then 1 else 0)
      (digitCode f.digitClass) (numCode nt) = .ok evs ∧ evs.map evOf = numericPrefix f nt :=
  ⟨_, format_numeric_prefix_eq f nt, map_evOf_map_ofEvent _⟩

theorem format_numeric_string_eq' (f : FormatSpec) (text : List Nat) (nt : NumType)
    (hpad : f.pad < 256)
    (hmin : -(2:Int)^31 ≤ f.minimumLength ∧ f.minimumLength < (2:Int)^31)
    (hlen : text.length < 2 ^ 62) :
    Kernels.format_numeric_string text (alignCode f.alignment)
      (if f.alwaysSigned then 1 else 0) (if f.classPrefix then 1 else 0) (digitCode f.digitClass) f.minimumLength
      (if f.numericPad then 1 else 0) (toChar f.pad) 0 text.length (numCode nt)
      = .ok ((formatNumericString f text nt).map ofEvent) := by
  unfold Kernels.format_numeric_string formatNumericString padOf
  simp only [pad_size_eq f text.length nt hmin hlen, format_numeric_prefix_eq, rdRange_all,
    pad_char_eq f.pad hpad, ok_bind, pure_eq_ok]
  cases f.numericPad
  · cases f.alignment <;> simp [alignCode, ofEvent]
  · simp [ofEvent]

theorem format_numeric_string_eq (f : FormatSpec) (text : List Nat) (nt : NumType)
    (hpad : f.pad < 256)
    (hmin : -(2:Int)^31 ≤ f.minimumLength ∧ f.minimumLength < (2:Int)^31)
    (hlen : text.length < 2 ^ 62) :
    ∃ evs, Kernels.format_numeric_string text (alignCode f.alignment)
      (if f.alwaysSigned then 1 else 0) (if f.classPrefix then 1 else 0) (digitCode f.digitClass) f.minimumLength
      (if f.numericPad then 1 else 0) (toChar f.pad) 0 text.length (numCode nt) = .ok evs
      ∧ evs.map evOf = formatNumericString f text nt :=
  ⟨_, format_numeric_string_eq' f text nt hpad hmin hlen, map_evOf_map_ofEvent _⟩

theorem rdRange_take (text : List Nat) (n : Nat) (hn : n ≤ text.length) :
    rdRange text 0 n = .ok (text.take n) := by
  simp [rdRange, hn]

/-- default alignment `align_left` as in the declaration -/
theorem format_string_eq (f : FormatSpec) (text : List Nat)
    (hpad : f.pad < 256) (hlen : text.length < 2 ^ 64) :
    Kernels.format_string text (alignCode f.alignment) f.minimumLength (toChar f.pad) f.precision
      0 text.length 1 = .ok ((formatString f text).map ofEvent) := by
  unfold Kernels.format_string formatString padOf
  simp only [narrow_int_eq, size_cast_eq, pad_char_eq f.pad hpad, ite_cascade_and]
  by_cases hc : f.precision ≥ 0 ∧ text.length > wrap64 f.precision
  · simp only [hc, and_self, ↓reduceIte, unsigned_sub_eq f.minimumLength _ (Nat.lt_trans hc.2 hlen),
      rdRange_take text _ (Nat.le_of_lt hc.2), ok_bind, pure_eq_ok]
    by_cases hm : f.minimumLength > toI32 (wrap64 f.precision)
    · cases f.alignment <;> simp [hm, alignCode, ofEvent]
    · simp [hm, ofEvent]
  · simp only [hc, ↓reduceIte, unsigned_sub_eq f.minimumLength _ hlen, rdRange_all, List.take_length, ok_bind, pure_eq_ok]
    by_cases hm : f.minimumLength > toI32 text.length
    · cases f.alignment <;> simp [hm, alignCode, ofEvent]
    · simp [hm, ofEvent]

theorem format_string_events (f : FormatSpec) (text : List Nat)
    (hpad : f.pad < 256)
    (hmin : -(2:Int)^31 ≤ f.minimumLength ∧ f.minimumLength < (2:Int)^31)
    (hprec : -(2:Int)^31 ≤ f.precision ∧ f.precision < (2:Int)^31)
    (hlen : text.length < 2 ^ 64) :
    ∃ evs, Kernels.format_string text (alignCode f.alignment) f.minimumLength (toChar f.pad) f.precision
      0 text.length 1 = .ok evs ∧ evs.map evOf = formatString f text := by
  -- `hmin`, `hprec` (the ranges of the C++ types) are not needed: both sides convert width and precision the same way
  have _ := hmin
  have _ := hprec
  exact ⟨_, format_string_eq f text hpad hlen, map_evOf_map_ofEvent _⟩

end StVerif.KernelBridge
