/-
  The standard encodings under the segmentation, the reference and the conversions: each scalar is one
  `good` segment carrying its standard units, so the reference (hence every conversion) maps the standard
  encoding of a scalar sequence to the standard encoding of the target (`convert_stdEnc`).
-/
import StVerif.Lemmas.UtfRef

namespace StVerif.Lemmas.Utf
open StVerif.Utf StVerif.Generated
open StVerif.Spec.Unicode

theorem encUtf8_bytes (c : Nat) (hc : c < 0x200000) : Bytes (encUtf8 c) := by
  intro x hx
  unfold encUtf8 at hx
  by_cases h1 : c < 0x80
  · simp [h1] at hx; omega
  · by_cases h2 : c < 0x800
    · simp [h1, h2] at hx; omega
    · by_cases h3 : c < 0x10000
      · simp [h1, h2, h3] at hx; omega
      · simp [h1, h2, h3] at hx; omega

theorem segUtf8_enc (c : Nat) (hc : c < 0x200000) (r : List Nat) :
    segUtf8 (encUtf8 c ++ r) = .good c (encUtf8 c) :: segUtf8 r :=
  segUtf8_seq (seq8_enc hc) (encUtf8_bytes c hc) r

theorem segUtf16_enc (c : Nat) (hs : Scalar c) (r : List Nat) :
    segUtf16 (encUtf16 c ++ r) = .good c (encUtf16 c) :: segUtf16 r :=
  segUtf16_seq (seq16_enc hs) r

def stdSegs (src : Enc) (s : List Nat) : List Seg :=
  s.map fun c => .good c (match src with | .utf8 => encUtf8 c | .utf16 => encUtf16 c | _ => [c])

theorem seg_std (src : Enc) (s : List Nat) (hs : ∀ c ∈ s, Scalar c) : seg src (stdEnc src s) = stdSegs src s := by
  cases src with
  | utf8 =>
    simp only [seg, stdEnc, stdSegs]
    induction s with
    | nil => rw [List.flatMap_nil, segUtf8.eq_def]; rfl
    | cons c l ih =>
      have hc := hs c List.mem_cons_self
      rw [List.flatMap_cons, segUtf8_enc c (by have := hc.1; omega), ih fun x hx => hs x (List.mem_cons_of_mem _ hx)]; rfl
  | utf16 =>
    simp only [seg, stdEnc, stdSegs]
    induction s with
    | nil => rw [List.flatMap_nil, segUtf16.eq_def]; rfl
    | cons c l ih =>
      rw [List.flatMap_cons, segUtf16_enc c (hs c List.mem_cons_self), ih fun x hx => hs x (List.mem_cons_of_mem _ hx)]; rfl
  | utf32 =>
    simp only [seg, stdEnc, stdSegs, segUtf32]
    apply List.map_congr_left
    intro c hc
    have := (hs c hc).1
    rw [if_pos (by omega)]
  | latin1 => simp only [seg, stdEnc, stdSegs, segLatin1]

theorem refSteps_std (src dst : Enc) (m : Mode) (subst : Bool) (s : List Nat) (hs : ∀ c ∈ s, Scalar c)
    (hd : dst = .latin1 → ∀ c ∈ s, c < 0x100) : refSteps src dst m subst (stdSegs src s) = some (stdEnc dst s) := by
  induction s with
  | nil => cases dst <;> rfl
  | cons c l ih =>
    have hle : c ≤ 0x10FFFF := by have := (hs c List.mem_cons_self).1; omega
    have ih' := ih (fun x hx => hs x (List.mem_cons_of_mem _ hx)) (fun h x hx => hd h x (List.mem_cons_of_mem _ hx))
    simp only [stdSegs, List.map_cons] at ih' ⊢
    rw [refSteps, ih']
    cases dst with
    | utf8 => cases src <;> simp [refStep, stdEnc]
    | utf16 => simp [refStep, stdEnc, hle]
    | utf32 => simp [refStep, stdEnc]
    | latin1 => simp [refStep, stdEnc, hd rfl c List.mem_cons_self]

theorem reference_stdEnc (src dst : Enc) (m : Mode) (subst : Bool) (s : List Nat) (hs : ∀ c ∈ s, Scalar c)
    (hd : dst = .latin1 → ∀ c ∈ s, c < 0x100) : reference src dst m subst (stdEnc src s) = .ok (stdEnc dst s) := by
  unfold reference; rw [seg_std src s hs, refSteps_std src dst m subst s hs hd]

theorem reference_std (src dst : Enc) (hd : dst ≠ .latin1) (m : Mode) (subst : Bool) (s : List Nat) (hs : ∀ c ∈ s, Scalar c) :
    reference src dst m subst (stdEnc src s) = .ok (stdEnc dst s) :=
  reference_stdEnc src dst m subst s hs fun h => absurd h hd

theorem scalar_of_byte {c : Nat} (h : c < 0x100) : Scalar c := ⟨by omega, by omega⟩

theorem encUtf16_units (c : Nat) (hc : c < 0x110000) : UnitsLt 65536 (encUtf16 c) := by
  intro x hx
  unfold encUtf16 at hx
  by_cases h1 : c < 0x10000
  · simp [h1] at hx; omega
  · simp [h1] at hx; omega

theorem stdEnc_units (src : Enc) (s : List Nat) (hs : ∀ c ∈ s, Scalar c) (hl : src = .latin1 → ∀ c ∈ s, c < 0x100) :
    UnitsLt (unitBound src) (stdEnc src s) := by
  cases src with
  | utf8 =>
    intro x hx; simp only [stdEnc, List.mem_flatMap] at hx
    obtain ⟨c, hc, hxc⟩ := hx
    exact encUtf8_bytes c (by have := (hs c hc).1; omega) x hxc
  | utf16 =>
    intro x hx; simp only [stdEnc, List.mem_flatMap] at hx
    obtain ⟨c, hc, hxc⟩ := hx
    exact encUtf16_units c (hs c hc).1 x hxc
  | utf32 => intro x hx; have := (hs x hx).1; simp only [unitBound]; omega
  | latin1 => intro x hx; exact hl rfl x hx

theorem validate_stdEnc (s : List Nat) (hs : ∀ c ∈ s, Scalar c) : validateUtf8 (stdEnc .utf8 s) = 0 := by
  induction s with
  | nil => rfl
  | cons c l ih =>
    have hc : c < 0x200000 := by have := (hs c List.mem_cons_self).1; omega
    exact (validateUtf8_seq (seq8_enc hc) _).trans (ih fun x hx => hs x (List.mem_cons_of_mem _ hx))

theorem convert_stdEnc (src dst : Enc) (hne : src ≠ dst) (m : Mode) (subst : Bool) (s : List Nat) (hs : ∀ c ∈ s, Scalar c)
    (hl : src = .latin1 → ∀ c ∈ s, c < 0x100) (hd : dst = .latin1 → ∀ c ∈ s, c < 0x100)
    (hlen : (stdEnc src s).length < hugeBufferSize) :
    convert src dst m subst (some (stdEnc src s)) = .ok (stdEnc dst s) := by
  rw [convert_eq_reference src dst hne m subst _ (stdEnc_units src s hs hl) hlen]
  exact reference_stdEnc src dst m subst s hs hd

end StVerif.Lemmas.Utf
