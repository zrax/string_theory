/-
  Helper lemmas for C08, separator part: `firstOcc` / `lastOcc` are the least / greatest occurrence
  (so `firstOcc` is what the model's search core computes), the three overload forms of `find(sep)` /
  `find_last(sep)` compute them, and before_* / after_* return the specified slices.
-/
import StVerif.Lemmas.Slice
import StVerif.Lemmas.Find

namespace StVerif.Lemmas.Slice
open StVerif.Slice StVerif.Search StVerif.Spec.Search StVerif.Lemmas.SearchSpec
open StVerif.Lemmas.Search StVerif.Lemmas.Find
open StVerif.Spec.Slice (firstOcc lastOcc)

theorem occursAt_le_length {cs : CaseMode} {s sep : List Nat} {i : Nat} (h : occursAt cs s sep i) :
    i + sep.length ≤ s.length := h.1

theorem firstOcc_nil_sep (cs : CaseMode) (s : List Nat) : firstOcc cs s [] = none := by unfold firstOcc; rfl

theorem lastOcc_nil_sep (cs : CaseMode) (s : List Nat) : lastOcc cs s [] = none := by unfold lastOcc; rfl

theorem firstOcc_least (cs : CaseMode) (s sep : List Nat) : Least (Occ cs s sep) (firstOcc cs s sep) := by
  unfold firstOcc
  by_cases hne : sep = []
  · rw [if_pos hne]
    exact fun j h => h.1 hne
  · rw [if_neg hne]
    refine (leastFrom_least _ (s.length + 1) 0).congr fun j => ?_
    rw [decide_eq_true_eq]
    exact ⟨fun h => ⟨hne, h.2.2⟩, fun c => ⟨Nat.zero_le j, by have := c.lt; omega, c.2⟩⟩

theorem lastOcc_greatest (cs : CaseMode) (s sep : List Nat) : Greatest (Occ cs s sep) (lastOcc cs s sep) := by
  unfold lastOcc
  by_cases hne : sep = []
  · rw [if_pos hne]
    exact fun j h => h.1 hne
  · rw [if_neg hne]
    refine (greatestBelow_greatest _ (s.length + 1)).congr fun j => ?_
    rw [decide_eq_true_eq]
    exact ⟨fun h => ⟨hne, h.2⟩, fun c => ⟨Nat.lt_succ_of_lt c.lt, c.2⟩⟩

theorem firstOcc_eq_findSub (cs : CaseMode) (s sep : List Nat) : firstOcc cs s sep = findSub cs s sep :=
  (firstOcc_least cs s sep).unique (findSub_least cs s sep)

theorem firstOcc_some {cs : CaseMode} {s sep : List Nat} {i : Nat} (h : firstOcc cs s sep = some i) :
    sep ≠ [] ∧ occursAt cs s sep i ∧ ∀ j, j < i → ¬ occursAt cs s sep j := by
  have hl := firstOcc_least cs s sep
  rw [h] at hl
  exact ⟨hl.1.1, hl.1.2, fun j hj ho => hl.2 j hj ⟨hl.1.1, ho⟩⟩

/-- What a loop that continues behind a hit needs: the step is not zero, stays inside, and leaves less. -/
theorem firstOcc_bound {cs : CaseMode} {s sep : List Nat} {i : Nat} (h : firstOcc cs s sep = some i) :
    i + sep.length ≠ 0 ∧ i + sep.length ≤ s.length ∧ (s.drop (i + sep.length)).length < s.length := by
  obtain ⟨hne, ho, _⟩ := firstOcc_some h
  have hpos := List.length_pos_iff.2 hne
  have := ho.1
  exact ⟨by omega, ho.1, by rw [List.length_drop]; omega⟩

theorem firstOcc_fold (s sep : List Nat) :
    firstOcc .insensitive s sep = firstOcc .sensitive (s.map foldAscii) (sep.map foldAscii) :=
  Least.unique ((firstOcc_least .insensitive s sep).congr (occ_fold s sep)) (firstOcc_least .sensitive _ _)

theorem lastOcc_some {cs : CaseMode} {s sep : List Nat} {i : Nat} (h : lastOcc cs s sep = some i) :
    sep ≠ [] ∧ occursAt cs s sep i ∧ ∀ j, i < j → ¬ occursAt cs s sep j := by
  have hl := lastOcc_greatest cs s sep
  rw [h] at hl
  exact ⟨hl.1.1, hl.1.2, fun j hj ho => hl.2 j hj ⟨hl.1.1, ho⟩⟩

theorem toNeedle_text (sep : Sep) : sep.toNeedle.text = sep.bytes := by
  cases sep with
  | char c => rfl
  | cstr p => cases p <;> rfl
  | str b => rfl

theorem findFirst_eq_firstOcc (cs : CaseMode) (s : List Nat) (sep : Sep) :
    findFirst cs s sep = idx (firstOcc cs s sep.bytes) := by
  rw [firstOcc_eq_findSub, ← toNeedle_text]
  exact findAll_eq cs s sep.toNeedle

theorem findLast_eq_lastOcc (cs : CaseMode) (s : List Nat) (sep : Sep) (hs : s.length < 2^63) :
    findLast cs s sep = idx (lastOcc cs s sep.bytes) := by
  show Search.findLast cs s SIZE_MAX sep.toNeedle = _
  rw [findLast_eq_text, toNeedle_text, findLast__eq_idx, (lastOcc_greatest cs s sep.bytes).unique
    ((findLast__greatest cs s SIZE_MAX sep.bytes).congr fun j =>
      ⟨And.right, fun ho => ⟨by have := ho.2.1; unfold SIZE_MAX; omega, ho⟩⟩)]

theorem lastOcc_eq_none_iff (cs : CaseMode) (s sep : List Nat) : lastOcc cs s sep = none ↔ firstOcc cs s sep = none := by
  rw [(lastOcc_greatest cs s sep).eq_none_iff, (firstOcc_least cs s sep).eq_none_iff]

theorem take_window_drop (s : List Nat) (i n : Nat) :
    s.take i ++ window s i n ++ s.drop (i + n) = s := by
  unfold window
  rw [List.append_assoc, ← List.drop_drop, List.take_append_drop, List.take_append_drop]

theorem reassemble_at {cs : CaseMode} {s sep : List Nat} {i : Nat} (ho : occursAt cs s sep i) :
    s.take i ++ window s i sep.length ++ s.drop (i + sep.length) = s ∧ (s.take i).length = i ∧
      (cs = .sensitive → s.take i ++ sep ++ s.drop (i + sep.length) = s) := by
  refine ⟨take_window_drop s i _, List.length_take_of_le (Nat.le_of_add_right_le ho.1), fun hcs => ?_⟩
  subst hcs
  have hw : window s i sep.length = sep := ho.2
  have := take_window_drop s i sep.length
  rwa [hw] at this

theorem skipOf_eq (sep : Sep) (i : Nat) (h : i + sep.bytes.length < 2^63) :
    skipOf .fixed (i : Int) sep = ((i + sep.bytes.length : Nat) : Int) := by
  cases sep with
  | char c => simp [skipOf, Sep.bytes]
  | _ =>
    simp only [skipOf, Sep.bytes] at h ⊢
    rw [← Int.natCast_add, wrap64_nat _ (Nat.lt_trans h (by decide)), toI64_small _ h]

theorem before_good (s : List Nat) (i : Nat) (hs : s.length < 2^63) (hi : i ≤ s.length) :
    Good s (s.take i) (left s (wrap64 (idx (some i)))) := by
  rw [show wrap64 (idx (some i)) = i from wrap64_nat i (by omega)]
  exact substr_nat s 0 i hs (Nat.zero_le _)

theorem after_good (s : List Nat) (sep : Sep) (i : Nat) (hs : s.length < 2^63) (hi : i + sep.bytes.length ≤ s.length) :
    Good s (s.drop (i + sep.bytes.length)) (substr s (skipOf .fixed (idx (some i)) sep) SIZE_MAX) := by
  show Good s _ (substr s (skipOf .fixed (i : Int) sep) SIZE_MAX)
  rw [skipOf_eq sep i (Nat.lt_of_le_of_lt hi hs)]
  exact substr_nat_auto s _ hs hi

theorem beforeFirst_good (cs : CaseMode) (s : List Nat) (sep : Sep) (hs : s.length < 2^63) :
    Good s (Spec.Slice.beforeFirst cs s sep.bytes) (beforeFirst cs s sep) := by
  unfold beforeFirst Spec.Slice.beforeFirst
  simp only [findFirst_eq_firstOcc]
  cases h : firstOcc cs s sep.bytes with
  | some i =>
    rw [if_pos (idx_some_nonneg i)]
    exact before_good s i hs (Nat.le_of_add_right_le (firstOcc_some h).2.1.1)
  | none =>
    rw [if_neg idx_none_neg]
    exact good_whole s

theorem afterFirst_good (cs : CaseMode) (s : List Nat) (sep : Sep) (hs : s.length < 2^63) :
    Good s (Spec.Slice.afterFirst cs s sep.bytes) (afterFirst cs s sep) := by
  unfold afterFirst Spec.Slice.afterFirst
  simp only [findFirst_eq_firstOcc]
  cases h : firstOcc cs s sep.bytes with
  | some i =>
    rw [if_pos (idx_some_nonneg i)]
    exact after_good s sep i hs (firstOcc_some h).2.1.1
  | none =>
    rw [if_neg idx_none_neg]
    exact good_empty s

theorem beforeLast_good (cs : CaseMode) (s : List Nat) (sep : Sep) (hs : s.length < 2^63) :
    Good s (Spec.Slice.beforeLast cs s sep.bytes) (beforeLast cs s sep) := by
  unfold beforeLast Spec.Slice.beforeLast
  simp only [findLast_eq_lastOcc cs s sep hs]
  cases h : lastOcc cs s sep.bytes with
  | some i =>
    rw [if_pos (idx_some_nonneg i)]
    exact before_good s i hs (Nat.le_of_add_right_le (lastOcc_some h).2.1.1)
  | none =>
    rw [if_neg idx_none_neg]
    exact good_empty s

theorem afterLast_good (cs : CaseMode) (s : List Nat) (sep : Sep) (hs : s.length < 2^63) :
    Good s (Spec.Slice.afterLast cs s sep.bytes) (afterLast cs s sep) := by
  unfold afterLast Spec.Slice.afterLast
  simp only [findLast_eq_lastOcc cs s sep hs]
  cases h : lastOcc cs s sep.bytes with
  | some i =>
    rw [if_pos (idx_some_nonneg i)]
    exact after_good s sep i hs (lastOcc_some h).2.1.1
  | none =>
    rw [if_neg idx_none_neg]
    exact good_whole s

end StVerif.Lemmas.Slice
