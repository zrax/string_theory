/-
  Facts about the Spec of searching alone (no model).

  `Least P o` / `Greatest P o` say that an optional index is the first / last one at which `P` holds (`First` in
  the order `<` / `>`).  Every search function of Spec and model is characterised by one such statement about `Occ`,
  the occurrences of a non-empty needle, and two results that are both the least (greatest) index are equal;
  `IsFind` / `IsFindLast` are these notions in the `ST_ssize_t` convention (`idx`): `isFind_iff`, `isFindLast_iff`.
-/
import StVerif.Spec.Search

namespace StVerif.Lemmas.SearchSpec
open StVerif.Search StVerif.Spec.Search

def First (lt : Nat → Nat → Prop) (P : Nat → Prop) : Option Nat → Prop
  | some i => P i ∧ ∀ j, lt j i → ¬ P j
  | none => ∀ j, ¬ P j

abbrev Least := First (· < ·)

abbrev Greatest := First (· > ·)

theorem First.unique {lt : Nat → Nat → Prop} (tri : ∀ i j, lt i j ∨ i = j ∨ lt j i) {P : Nat → Prop} {o o' : Option Nat}
    (h : First lt P o) (h' : First lt P o') : o = o' := by
  cases o with
  | none =>
    cases o' with
    | none => rfl
    | some i' => exact absurd h'.1 (h i')
  | some i =>
    cases o' with
    | none => exact absurd h.1 (h' i)
    | some i' =>
      rcases tri i i' with hlt | e | hlt
      · exact absurd h.1 (h'.2 i hlt)
      · rw [e]
      · exact absurd h'.1 (h.2 i' hlt)

theorem Least.unique {P : Nat → Prop} {o o' : Option Nat} (h : Least P o) (h' : Least P o') : o = o' :=
  First.unique Nat.lt_trichotomy h h'

theorem Greatest.unique {P : Nat → Prop} {o o' : Option Nat} (h : Greatest P o) (h' : Greatest P o') : o = o' :=
  First.unique (fun i j => (Nat.lt_trichotomy j i).imp id (Or.imp Eq.symm id)) h h'

theorem First.eq_none_iff {lt : Nat → Nat → Prop} {P : Nat → Prop} {o : Option Nat} (h : First lt P o) :
    o = none ↔ ∀ j, ¬ P j := by
  cases o with
  | none => exact ⟨fun _ => h, fun _ => rfl⟩
  | some i => exact ⟨nofun, fun hn => absurd h.1 (hn i)⟩

theorem First.congr {lt : Nat → Nat → Prop} {P Q : Nat → Prop} {o : Option Nat} (h : First lt P o)
    (hPQ : ∀ j, P j ↔ Q j) : First lt Q o := by
  rw [show Q = P from funext fun j => propext (hPQ j).symm]; exact h

theorem Least.shift {P : Nat → Prop} {s : Nat} {o : Option Nat} (h : Least (fun i => P (s + i)) o) :
    Least (fun j => s ≤ j ∧ P j) (o.map (s + ·)) := by
  have back : ∀ j, s ≤ j → P j → P (s + (j - s)) := fun j hj hp => by rwa [Nat.add_sub_cancel' hj]
  cases o with
  | none => exact fun j hq => h (j - s) (back j hq.1 hq.2)
  | some i =>
    show Least _ (some (s + i))
    exact ⟨⟨Nat.le_add_right s i, h.1⟩, fun j hj hq => h.2 (j - s) (by omega) (back j hq.1 hq.2)⟩

theorem leastFrom_least (p : Nat → Bool) (fuel i : Nat) :
    Least (fun j => i ≤ j ∧ j < i + fuel ∧ p j = true) (leastFrom p fuel i) := by
  induction fuel generalizing i with
  | zero => exact fun j h => by omega
  | succ fuel ih =>
    unfold leastFrom
    by_cases hp : p i = true
    · rw [if_pos hp]
      exact ⟨⟨Nat.le_refl i, Nat.lt_add_of_pos_right (Nat.succ_pos _), hp⟩, fun j hj h => by omega⟩
    · rw [if_neg hp]
      refine (ih (i + 1)).congr fun j => ?_
      -- `i` itself is no candidate
      rw [Nat.add_right_comm, Nat.add_one_le_iff]
      exact and_congr_left fun c => ⟨Nat.le_of_lt, fun a => Nat.lt_of_le_of_ne a fun e => hp (e ▸ c.2)⟩

theorem greatestBelow_greatest (p : Nat → Bool) (n : Nat) :
    Greatest (fun j => j < n ∧ p j = true) (greatestBelow p n) := by
  induction n with
  | zero => exact fun j h => Nat.not_lt_zero j h.1
  | succ n ih =>
    unfold greatestBelow
    by_cases hp : p n = true
    · rw [if_pos hp]
      exact ⟨⟨Nat.lt_succ_self n, hp⟩, fun j hj h => by omega⟩
    · rw [if_neg hp]
      exact ih.congr fun j => and_congr_left fun c =>
        ⟨Nat.lt_succ_of_lt, fun a => Nat.lt_of_le_of_ne (Nat.le_of_lt_succ a) fun e => hp (e ▸ c)⟩

/-- What every search of Spec and model looks for: the empty needle occurs (`occursAt`) at every index up to the length and is
    found by none of them. -/
def Occ (cs : CaseMode) (hay needle : List Nat) (i : Nat) : Prop := needle ≠ [] ∧ occursAt cs hay needle i

theorem Occ.lt {cs : CaseMode} {hay needle : List Nat} {i : Nat} (h : Occ cs hay needle i) : i < hay.length :=
  Nat.lt_of_lt_of_le (Nat.lt_add_of_pos_right (List.length_pos_iff.2 h.1)) h.2.1

def idx : Option Nat → Int
  | some i => (i : Int)
  | none => -1

theorem idx_some_nonneg (i : Nat) : idx (some i) ≥ 0 := Int.natCast_nonneg i

theorem idx_none_neg : ¬ idx none ≥ 0 := by decide

theorem isFind_iff (cs : CaseMode) (hay : List Nat) (start : Nat) (needle : List Nat) (r : Int) :
    IsFind cs hay start needle r ↔ ∃ o, r = idx o ∧ Least (fun j => start ≤ j ∧ Occ cs hay needle j) o := by
  constructor
  · rintro (⟨i, e, hne, _, hle, ho, hm⟩ | ⟨e, hn⟩)
    · exact ⟨some i, e, ⟨hle, hne, ho⟩, fun j hj hq => hm j hq.1 hj hq.2.2⟩
    · refine ⟨none, e, ?_⟩
      rintro j ⟨h1, ho⟩
      rcases hn with h | h | h
      · exact ho.1 h
      · exact Nat.not_lt.2 (Nat.le_trans h h1) ho.lt
      · exact h j h1 ho.2
  · rintro ⟨o, e, h⟩
    cases o with
    | some i =>
      exact Or.inl ⟨i, e, h.1.2.1, Nat.lt_of_le_of_lt h.1.1 h.1.2.lt, h.1.1, h.1.2.2,
        fun j h1 h2 ho => h.2 j h2 ⟨h1, h.1.2.1, ho⟩⟩
    | none =>
      by_cases hne : needle = []
      · exact Or.inr ⟨e, Or.inl hne⟩
      · exact Or.inr ⟨e, Or.inr (Or.inr fun j h1 ho => h j ⟨h1, hne, ho⟩)⟩

theorem isFindLast_iff (cs : CaseMode) (hay : List Nat) (max : Nat) (needle : List Nat) (r : Int) :
    IsFindLast cs hay max needle r ↔
      ∃ o, r = idx o ∧ Greatest (fun j => j + needle.length ≤ max ∧ Occ cs hay needle j) o := by
  constructor
  · rintro (⟨i, e, hne, hle, ho, hm⟩ | ⟨e, hn⟩)
    · exact ⟨some i, e, ⟨hle, hne, ho⟩, fun j hj hq => hm j hj hq.1 hq.2.2⟩
    · refine ⟨none, e, ?_⟩
      rintro j ⟨h1, ho⟩
      rcases hn with h | h
      · exact ho.1 h
      · exact h j h1 ho.2
  · rintro ⟨o, e, h⟩
    cases o with
    | some i => exact Or.inl ⟨i, e, h.1.2.1, h.1.1, h.1.2.2, fun j h1 h2 ho => h.2 j h1 ⟨h2, h.1.2.1, ho⟩⟩
    | none =>
      by_cases hne : needle = []
      · exact Or.inr ⟨e, Or.inl hne⟩
      · exact Or.inr ⟨e, Or.inr fun j h1 ho => h j ⟨h1, hne, ho⟩⟩

theorem isFind_unique {cs : CaseMode} {hay : List Nat} {start : Nat} {needle : List Nat} {r r' : Int}
    (h : IsFind cs hay start needle r) (h' : IsFind cs hay start needle r') : r = r' := by
  obtain ⟨o, e, hl⟩ := (isFind_iff ..).1 h
  obtain ⟨o', e', hl'⟩ := (isFind_iff ..).1 h'
  rw [e, e', hl.unique hl']

theorem isFindLast_unique {cs : CaseMode} {hay : List Nat} {max : Nat} {needle : List Nat} {r r' : Int}
    (h : IsFindLast cs hay max needle r) (h' : IsFindLast cs hay max needle r') : r = r' := by
  obtain ⟨o, e, hl⟩ := (isFindLast_iff ..).1 h
  obtain ⟨o', e', hl'⟩ := (isFindLast_iff ..).1 h'
  rw [e, e', hl.unique hl']

theorem findRef_isFind (cs : CaseMode) (hay : List Nat) (start : Nat) (needle : List Nat) :
    IsFind cs hay start needle (findRef cs hay start needle) := by
  rw [isFind_iff]
  unfold findRef
  by_cases h0 : needle = [] ∨ hay.length ≤ start
  · rw [if_pos h0]
    refine ⟨none, rfl, ?_⟩
    rintro j ⟨h1, ho⟩
    exact h0.elim ho.1 fun h => Nat.not_lt.2 (Nat.le_trans h h1) ho.lt
  · rw [if_neg h0]
    refine ⟨leastFrom _ (hay.length + 1 - start) start, by cases leastFrom _ _ start <;> rfl, ?_⟩
    -- an occurrence ends inside the text, so the bound of the search excludes none
    refine (leastFrom_least _ _ start).congr fun j => ?_
    rw [decide_eq_true_eq]
    exact and_congr_right fun a => ⟨fun h => ⟨fun e => h0 (Or.inl e), h.2⟩, fun c => ⟨by have := c.lt; omega, c.2⟩⟩

theorem isFind_iff_findRef (cs : CaseMode) (hay : List Nat) (start : Nat) (needle : List Nat) (r : Int) :
    IsFind cs hay start needle r ↔ r = findRef cs hay start needle :=
  ⟨fun h => isFind_unique h (findRef_isFind ..), fun h => h ▸ findRef_isFind ..⟩

theorem findLastRef_isFindLast (cs : CaseMode) (hay : List Nat) (max : Nat) (needle : List Nat) :
    IsFindLast cs hay max needle (findLastRef cs hay max needle) := by
  rw [isFindLast_iff]
  unfold findLastRef
  by_cases h0 : needle = []
  · rw [if_pos h0]
    exact ⟨none, rfl, fun j ho => ho.2.1 h0⟩
  · rw [if_neg h0]
    refine ⟨greatestBelow _ (hay.length + 1), by cases greatestBelow _ (hay.length + 1) <;> rfl, ?_⟩
    refine (greatestBelow_greatest _ _).congr fun j => ?_
    rw [decide_eq_true_eq]
    exact ⟨fun h => ⟨h.2.1, h0, h.2.2⟩, fun h => ⟨Nat.lt_succ_of_lt h.2.lt, h.1, h.2.2⟩⟩

theorem isFindLast_iff_findLastRef (cs : CaseMode) (hay : List Nat) (max : Nat) (needle : List Nat) (r : Int) :
    IsFindLast cs hay max needle r ↔ r = findLastRef cs hay max needle :=
  ⟨fun h => isFindLast_unique h (findLastRef_isFindLast ..), fun h => h ▸ findLastRef_isFindLast ..⟩

theorem norm_insensitive_eq (xs : List Nat) : norm .insensitive xs = norm .sensitive (xs.map foldAscii) := rfl

theorem occursAt_fold (hay needle : List Nat) (i : Nat) :
    occursAt .insensitive hay needle i ↔ occursAt .sensitive (hay.map foldAscii) (needle.map foldAscii) i := by
  simp only [occursAt, window, norm, List.length_map, List.map_take, List.map_drop]

theorem occ_fold (hay needle : List Nat) (i : Nat) :
    Occ .insensitive hay needle i ↔ Occ .sensitive (hay.map foldAscii) (needle.map foldAscii) i := by
  unfold Occ
  rw [occursAt_fold, ne_eq, ne_eq, List.map_eq_nil_iff]

theorem foldAscii_eq_zero (c : Nat) : foldAscii c = 0 ↔ c = 0 := by
  unfold foldAscii; split <;> omega

theorem cstr_map_fold (p : List Nat) : cstr (p.map foldAscii) = (cstr p).map foldAscii := by
  simp only [cstr, List.takeWhile_map, Function.comp_def, ne_eq, foldAscii_eq_zero]

end StVerif.Lemmas.SearchSpec
