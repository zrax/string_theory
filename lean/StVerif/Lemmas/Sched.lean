/-
  Lemmas for C20: the decidable guard is sound, an admissible step of one thread is invisible to every
  object the thread may not write (frame), and it is a function of what the thread may read (locality);
  then the induction over the schedule that `Props/C20.lean` states its theorems from: `run_frame` (shared
  objects through a whole run) and `run_related` (a thread cannot tell the concurrent run from its run alone:
  `Alike` is kept by its own turns, `Alike.own_turn`, and by the others', `Alike.other_turn`).
-/
import StVerif.Lemmas.SchedEffect
import StVerif.Lemmas.StrPoolReach
import StVerif.Lemmas.ListFacts

namespace StVerif.Sched
open StVerif.Pool StVerif.StrPool

variable {p q : Pool} {part : Part} {t : Tid}

/-- the state invariant carried along every schedule -/
def Good (p : Pool) : Prop := Inv p ∧ TempsDead p ∧ p.failAt = none

theorem isSome_objs_eq_view (p : Pool) (x : Nat) : (p.objs x).isSome = (view p x).isSome := by
  simp [view]

theorem convOkB_sound {c : Outcome (List Nat)} (h : convOkB c = true) : ConvOk c := by
  cases c with
  | ok v => exact Or.inl ⟨v, rfl⟩
  | throw e => cases e with
    | unicodeError => exact Or.inr rfl
    | _ => cases h
  | _ => cases h

theorem userB_iff {x : Nat} : userB x = true ↔ userId x := decide_eq_true_iff

theorem aliveB_iff {o : Nat} : aliveB p o = true ↔ alive p o := Option.isSome_iff_exists

theorem deadB_iff {o : Nat} : deadB p o = true ↔ p.objs o = none := by
  simp [deadB]

theorem preB_sound {op : SOp} (h : preB op p = true) : op.pre p := by
  cases op <;>
    simp only [preB, Bool.and_eq_true, userB_iff, aliveB_iff, deadB_iff, decide_eq_true_eq, List.all_eq_true, and_assoc] at h
  case setConv | assignConv => exact ⟨h.1, h.2.1, convOkB_sound h.2.2⟩
  all_goals exact h

theorem preB_congr {op : SOp} (h : ∀ x, x ∈ op.targets ∨ x ∈ op.reads → (p.objs x).isSome = (q.objs x).isSome) :
    preB op p = preB op q := by
  cases op
  case derive ds =>
    simp only [preB, deadB]
    congr 1
    exact all_congr_mem fun d hd => by rw [h d (Or.inl hd)]
  -- every `aliveB p x`, `deadB p x` in `preB op p` has `x` among the operands: rewritten by `h`
  all_goals
    simp only [preB, aliveB, deadB, h, SOp.targets, SOp.reads, List.mem_cons, List.not_mem_nil, true_or, or_true, or_false]

theorem toSOp_targets_writable {top : TOp} (h : top.owned part t = true) (p : Pool) :
    ∀ x ∈ (top.toSOp p).targets, writable part t x = true := by
  cases top with
  | const reads dests f =>
    simp only [TOp.owned, Bool.and_eq_true, List.all_eq_true] at h
    intro x hx
    simp only [TOp.toSOp] at hx
    split at hx
    · simp only [SOp.targets, List.mem_map] at hx
      obtain ⟨dv, hdv, rfl⟩ := hx
      exact h.2 _ (List.of_mem_zip hdv).1
    · simp [SOp.targets] at hx
    · simp [SOp.targets] at hx
  | mutate op =>
    simp only [TOp.owned, Bool.and_eq_true, List.all_eq_true] at h
    exact fun x hx => h.1 x hx

theorem readable_iff {x : Nat} : readable part t x = true ↔ part x = .shared ∨ part x = .priv t := by
  simp [readable]

theorem writable_iff {x : Nat} : writable part t x = true ↔ part x = .priv t := by
  simp [writable]

theorem toSOp_operands_readable {top : TOp} (h : top.owned part t = true) (p : Pool) :
    ∀ x, x ∈ (top.toSOp p).targets ∨ x ∈ (top.toSOp p).reads → readable part t x = true := by
  intro x hx
  rcases hx with hx | hx
  · exact readable_iff.mpr (Or.inr (writable_iff.mp (toSOp_targets_writable h p x hx)))
  · cases top with
    | const reads dests f =>
      simp only [TOp.toSOp] at hx
      split at hx <;> simp [SOp.reads] at hx
    | mutate op =>
      simp only [TOp.owned, Bool.and_eq_true, List.all_eq_true] at h
      exact h.2 x hx

theorem not_writable_of_readable {part : Part} {s t : Tid} (hst : s ≠ t) {x : Nat} (h : readable part t x = true) :
    writable part s x = false := by
  refine Bool.eq_false_iff.mpr fun hw => ?_
  rw [writable_iff] at hw
  rcases readable_iff.mp h with h | h
  · rw [h] at hw; cases hw
  · rw [h] at hw; exact hst (Owner.priv.inj hw).symm

theorem not_writable_of_shared {part : Part} {s : Tid} {x : Nat} (h : part x = .shared) : writable part s x = false :=
  Bool.eq_false_iff.mpr fun hw => by rw [writable_iff, h] at hw; cases hw

theorem execOp_fst (part : Part) (t : Tid) (p : Pool) (top : TOp) :
    (execOp part t p top).1 = if top.admissible part t p then ((top.toSOp p).run p).pool else p := by
  unfold execOp
  split
  · cases (top.toSOp p).run p <;> rfl
  · rfl

theorem execOp_frame {s : Tid} (top : TOp) (hG : Good p) :
    Good (execOp part s p top).1 ∧
    ∀ x, writable part s x = false → (execOp part s p top).1.objs x = p.objs x ∧ view (execOp part s p top).1 x = view p x := by
  rw [execOp_fst]
  by_cases ha : top.admissible part s p = true
  · rw [if_pos ha]
    simp only [TOp.admissible, Bool.and_eq_true] at ha
    obtain ⟨s1, t1⟩ := sop_keeps hG.1 hG.2.1 (top.toSOp p) (preB_sound ha.2)
    refine ⟨⟨s1.inv, t1, s1.failAt.trans hG.2.2⟩, fun x hx => ?_⟩
    have hnt : ¬ x ∈ (top.toSOp p).targets := fun hm => by rw [toSOp_targets_writable ha.1 p x hm] at hx; cases hx
    exact ⟨s1.objs x hnt, s1.view x hnt⟩
  · rw [if_neg ha]
    exact ⟨hG, fun x _ => ⟨rfl, rfl⟩⟩

def Agree (part : Part) (t : Tid) (p q : Pool) : Prop := ∀ x, readable part t x = true → view p x = view q x

theorem mineOf_agree (h : Agree part t p q) : mineOf part t p = mineOf part t q := by
  funext x
  unfold mineOf
  by_cases hx : part x = .priv t
  · rw [if_pos hx, if_pos hx]
    exact h x (readable_iff.mpr (Or.inr hx))
  · rw [if_neg hx, if_neg hx]

theorem owned_agree {top : TOp} (ho : top.owned part t = true) (hA : Agree part t p q) :
    top.toSOp q = top.toSOp p ∧ top.result q = top.result p ∧ preB (top.toSOp p) q = preB (top.toSOp p) p ∧
    effect (view q) (top.toSOp p) = effect (view p) (top.toSOp p) := by
  have hR := toSOp_operands_readable ho p
  have hop : top.toSOp q = top.toSOp p ∧ top.result q = top.result p := by
    cases top with
    | mutate op => exact ⟨rfl, rfl⟩
    | const reads dests f =>
      simp only [TOp.owned, Bool.and_eq_true, List.all_eq_true] at ho
      have : reads.map (view q) = reads.map (view p) := List.map_congr_left fun x hx => (hA x (ho.1 x hx)).symm
      simp only [TOp.toSOp, TOp.result, this, and_self]
  exact ⟨hop.1, hop.2,
    preB_congr fun x hx => by rw [isSome_objs_eq_view, isSome_objs_eq_view, hA x (hR x hx)],
    effect_congr _ fun x hx => (hA x (hR x hx)).symm⟩

theorem admissible_agree (top : TOp) (hA : Agree part t p q) : top.admissible part t q = top.admissible part t p := by
  unfold TOp.admissible
  by_cases ho : top.owned part t = true
  · obtain ⟨hS, _, hB, _⟩ := owned_agree ho hA
    rw [hS, hB]
  · rw [Bool.not_eq_true] at ho
    rw [ho, Bool.false_and, Bool.false_and]

theorem execOp_agree (top : TOp) (hp : Good p) (hq : Good q) (hA : Agree part t p q) :
    Good (execOp part t p top).1 ∧ Good (execOp part t q top).1 ∧
    Agree part t (execOp part t p top).1 (execOp part t q top).1 ∧ (execOp part t p top).2 = (execOp part t q top).2 := by
  refine ⟨(execOp_frame top hp).1, (execOp_frame top hq).1, ?_⟩
  unfold execOp
  rw [admissible_agree top hA]
  by_cases ha : top.admissible part t p = true
  · rw [if_pos ha, if_pos ha]
    simp only [TOp.admissible, Bool.and_eq_true] at ha
    obtain ⟨hS, hR, hB, hE⟩ := owned_agree ha.1 hA
    rw [hS, hR]
    -- the same operation runs in both pools, and `effect` says the same of both runs
    have h1 := sop_run_ok hp.1 hp.2.2 hp.2.1 (top.toSOp p) (preB_sound ha.2)
    have h2 := sop_run_ok hq.1 hq.2.2 hq.2.1 (top.toSOp p) (preB_sound (hB ▸ ha.2))
    rw [hE] at h2
    cases hx : effect (view p) (top.toSOp p) with
    | ok us =>
      rw [hx] at h1 h2
      obtain ⟨p', r1, s1, v1⟩ := h1
      obtain ⟨q', r2, s2, v2⟩ := h2
      rw [r1, r2]
      have hA' : Agree part t p' q' := by
        intro x hx'
        by_cases hm : x ∈ (top.toSOp p).targets
        · obtain ⟨xv, hxv, rfl⟩ := List.mem_map.mp (effect_keys hx ▸ hm)
          rw [v1 xv hxv, v2 xv hxv]
        · rw [s1.view x hm, s2.view x hm]; exact hA x hx'
      exact ⟨hA', by simp only [mineOf_agree hA']⟩
    | error e =>
      rw [hx] at h1 h2
      obtain ⟨p', r1, _, s1⟩ := h1
      obtain ⟨q', r2, _, s2⟩ := h2
      rw [r1, r2]
      have hA' : Agree part t p' q' := fun x hx' => by rw [s1.view x id, s2.view x id]; exact hA x hx'
      exact ⟨hA', by simp only [mineOf_agree hA']⟩
  · rw [if_neg ha, if_neg ha]
    exact ⟨hA, by rw [mineOf_agree hA]⟩

end StVerif.Sched

namespace StVerif.Props.C20
open StVerif.Pool StVerif.StrPool StVerif.Sched

variable {part : Part} {t : Tid}

theorem stepThread_frame (part : Part) (s : Tid) (c : Config) (hG : Good c.pool) :
    Good (stepThread part s c).pool ∧
    ∀ x, writable part s x = false → (stepThread part s c).pool.objs x = c.pool.objs x ∧ view (stepThread part s c).pool x = view c.pool x := by
  unfold stepThread
  cases c.progs s with
  | nil => exact ⟨hG, fun _ _ => ⟨rfl, rfl⟩⟩
  | cons top rest => exact execOp_frame top hG

theorem run_frame (part : Part) (sched : List Tid) (c : Config) (hG : Good c.pool) :
    Good (run part sched c).pool ∧
    ∀ x, part x = .shared → (run part sched c).pool.objs x = c.pool.objs x ∧ view (run part sched c).pool x = view c.pool x := by
  induction sched generalizing c with
  | nil => exact ⟨hG, fun _ _ => ⟨rfl, rfl⟩⟩
  | cons s rest ih =>
    obtain ⟨g, f⟩ := stepThread_frame part s c hG
    obtain ⟨g', f'⟩ := ih (stepThread part s c) g
    refine ⟨g', fun x hx => ?_⟩
    obtain ⟨a, b⟩ := f x (not_writable_of_shared hx)
    exact ⟨(f' x hx).1.trans a, (f' x hx).2.trans b⟩

theorem stepThread_other (part : Part) {s : Tid} (hst : s ≠ t) (c : Config) :
    (stepThread part s c).progs t = c.progs t ∧ (stepThread part s c).trace t = c.trace t := by
  unfold stepThread
  cases c.progs s with
  | nil => exact ⟨rfl, rfl⟩
  | cons top rest => simp [Sched.upd, Ne.symm hst]

/-- thread `t` cannot tell the concurrent configuration `c` from the configuration `a` in which only `t` runs -/
structure Alike (part : Part) (t : Tid) (c a : Config) : Prop where
  good : Good c.pool
  good' : Good a.pool
  agree : Agree part t c.pool a.pool
  progs : c.progs t = a.progs t
  trace : c.trace t = a.trace t

theorem Alike.own_turn {c a : Config} (h : Alike part t c a) : Alike part t (stepThread part t c) (stepThread part t a) := by
  unfold stepThread
  rw [← h.progs]
  cases c.progs t with
  | nil => exact h
  | cons top more =>
    obtain ⟨g1, g2, a', o⟩ := execOp_agree (part := part) (t := t) top h.good h.good' h.agree
    exact ⟨g1, g2, a', by simp [Sched.upd], by simp [Sched.upd, h.trace, o]⟩

theorem Alike.other_turn {s : Tid} (hs : s ≠ t) {c a : Config} (h : Alike part t c a) :
    Alike part t (stepThread part s c) a := by
  obtain ⟨g, f⟩ := stepThread_frame part s c h.good
  obtain ⟨hp, ht⟩ := stepThread_other part hs c
  exact ⟨g, h.good', fun x hx => by rw [(f x (not_writable_of_readable hs hx)).2]; exact h.agree x hx,
    hp.trans h.progs, ht.trans h.trace⟩

theorem run_related {c a : Config} (h : Alike part t c a) (sched : List Tid) :
    Alike part t (run part sched c) (run part (alone t sched) a) := by
  induction sched generalizing c a with
  | nil => exact h
  | cons s rest ih =>
    by_cases hs : s = t
    · subst hs
      have hal : alone s (s :: rest) = s :: alone s rest := by simp [alone]
      rw [hal]
      exact ih h.own_turn
    · have hal : alone t (s :: rest) = alone t rest := by simp [alone, hs]
      rw [hal]
      exact ih (h.other_turn hs)

end StVerif.Props.C20
