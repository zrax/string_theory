/-
  Refinement of the twelve conversion functions to the reference transcoding (`convert_eq_reference`):
  the reference steps as a fold (`refSteps_some`, `refSteps_none_iff`), one loop iteration against one
  reference step (`step_ref`), the fill pass and the measured size against all of them (`fill_ref`).
  Then the length facts: a buffer the model returns holds exactly the measured number of units
  (`convert_ok_length`), and the bound on text converted to UTF-8.
-/
import StVerif.Lemmas.UtfSeg

namespace StVerif.Lemmas.Utf
open StVerif.Utf StVerif.Generated
open StVerif.Spec.Unicode

theorem refSteps_some {src dst : Enc} {m : Mode} {subst : Bool} (f : Seg → List Nat) :
    ∀ {sgs : List Seg}, (∀ sg ∈ sgs, refStep src dst m subst sg = some (f sg)) →
      refSteps src dst m subst sgs = some (sgs.flatMap f)
  | [], _ => rfl
  | s :: rest, h => by
    rw [refSteps, h s List.mem_cons_self, refSteps_some f fun sg hs => h sg (List.mem_cons_of_mem _ hs)]; rfl

theorem refSteps_none_iff {src dst : Enc} {m : Mode} {subst : Bool} :
    ∀ {sgs : List Seg}, refSteps src dst m subst sgs = none ↔ ∃ sg ∈ sgs, refStep src dst m subst sg = none
  | [] => by simp [refSteps]
  | s :: rest => by
    simp only [refSteps, List.mem_cons, exists_eq_or_imp, ← refSteps_none_iff (sgs := rest)]
    cases refStep src dst m subst s <;> cases refSteps src dst m subst rest <;> simp

theorem reference_ok_iff {src dst : Enc} {m : Mode} {subst : Bool} {xs out : List Nat} :
    reference src dst m subst xs = .ok out ↔ refSteps src dst m subst (seg src xs) = some out := by
  unfold reference
  cases refSteps src dst m subst (seg src xs) <;> simp

theorem reference_throw_iff {src dst : Enc} {m : Mode} {subst : Bool} {xs : List Nat} :
    reference src dst m subst xs = .throw .unicodeError ↔ refSteps src dst m subst (seg src xs) = none := by
  unfold reference
  cases refSteps src dst m subst (seg src xs) <;> simp

theorem reference_ok_or_throw (src dst : Enc) (m : Mode) (subst : Bool) (xs : List Nat) :
    (∃ out, reference src dst m subst xs = .ok out) ∨ reference src dst m subst xs = .throw .unicodeError := by
  unfold reference
  cases refSteps src dst m subst (seg src xs) with
  | some out => exact .inl ⟨out, rfl⟩
  | none => exact .inr rfl

theorem repl8 : replacement .utf8 = badcharSubstituteUtf8 := by decide
theorem repl16 : replacement .utf16 = [badcharSubstitute] := by decide
theorem repl32 : replacement .utf32 = [badcharSubstitute] := by decide
theorem replL1 : replacement .latin1 = [questionMark] := by decide
theorem sub8_len : badcharSubstituteUtf8.length = 3 := by decide

theorem latin1Tail_eq (v : Nat) (subst : Bool) :
    latin1Tail v subst = if v < 0x100 then .units [v] else if subst then .units [63] else .error errLatin1OutOfRange := by
  unfold latin1Tail
  by_cases h : v < 0x100
  · rw [if_neg (by omega), if_pos h]
  · rw [if_pos (by omega), if_neg h]; rfl

theorem step_ref_utf8 (dst : Enc) (hd : dst ≠ .utf8) (m : Mode) (subst : Bool) (ch : Nat) (sg : Seg) (hr : RelF ch sg) :
    (∀ us, refStep .utf8 dst m subst sg = some us → stepCh .utf8 dst m subst ch = .units us ∧ measureCh .utf8 dst ch = us.length) ∧
    (refStep .utf8 dst m subst sg = none → ∃ k, stepCh .utf8 dst m subst ch = .error k) := by
  cases sg with
  | bad u =>
    obtain ⟨he, hgt⟩ := hr
    cases dst with
    | utf8 => exact absurd rfl hd
    -- of the mode, the loop bodies and the reference ask one thing only: is it `check_validity`?
    | utf16 => by_cases hm : m = .checkValidity <;> simp [refStep, stepCh, measureCh, hm, he, utf16Measure_gt hgt, repl16]
    | utf32 => by_cases hm : m = .checkValidity <;> simp [refStep, stepCh, measureCh, hm, he, repl32]
    | latin1 =>
      by_cases hm : m = .checkValidity <;> simp [refStep, stepCh, measureCh, hm, he, latin1Tail_eq, replL1, questionMark]
  | good v us =>
    obtain ⟨rfl, hv⟩ := hr
    have ce := charError_of_lt hv
    cases dst with
    | utf8 => exact absurd rfl hd
    | utf16 =>
      by_cases hle : ch ≤ 0x10FFFF
      · simp [refStep, stepCh, measureCh, ce, hle, writeUtf16_eq ch hle, utf16Measure_eq ch hle]
      · have hgt : ch > 0x10FFFF := by omega
        by_cases hm : m = .checkValidity <;>
          simp [refStep, stepCh, measureCh, hm, ce, hle, writeUtf16_none ch hgt, utf16Measure_gt hgt, repl16]
    | utf32 => simp [refStep, stepCh, measureCh, ce]
    | latin1 =>
      by_cases hl : ch < 0x100 <;> cases subst <;> simp [refStep, stepCh, measureCh, ce, latin1Tail_eq, hl]

/-- the two bytes `utf8_convert_from_latin_1` writes for a byte above 7F are the standard two-byte encoding -/
theorem stepCh_latin1_utf8 (m : Mode) (subst : Bool) {ch : Nat} (h : ch < 256) :
    stepCh .latin1 .utf8 m subst ch = .units (encUtf8 ch) ∧ measureCh .latin1 .utf8 ch = (encUtf8 ch).length := by
  simp only [stepCh, measureCh, hibit_iff h, encUtf8_length, lead2_byte, cont_byte, Nat.shiftRight_eq_div_pow, Nat.reducePow]
  unfold encUtf8
  by_cases hh : 0x80 ≤ ch
  · have h2 : ch < 64 * 32 := Nat.lt_trans h (by decide)
    simp only [hh, Nat.not_lt.2 hh, h2, ↓reduceIte, Nat.mod_eq_of_lt (Nat.div_lt_of_lt_mul h2), and_self]
  · simp only [hh, Nat.lt_of_not_le hh, ↓reduceIte, and_self]

theorem step_ref (src dst : Enc) (hne : src ≠ dst) (m : Mode) (subst : Bool) (ch : Nat) (sg : Seg) (hr : Rel src ch sg) :
    (∀ us, refStep src dst m subst sg = some us → stepCh src dst m subst ch = .units us ∧ measureCh src dst ch = us.length) ∧
    (refStep src dst m subst sg = none → ∃ k, stepCh src dst m subst ch = .error k) := by
  cases src with
  | utf8 => exact step_ref_utf8 dst (Ne.symm hne) m subst ch sg hr
  | utf16 =>
    cases dst with
    | utf16 => exact absurd rfl hne
    -- towards UTF-32 and Latin-1 the loop body, the measure and the reference are those of a UTF-8 source
    | utf32 => cases sg <;> exact step_ref_utf8 .utf32 (by decide) m subst ch _ hr.1
    | latin1 => cases sg <;> exact step_ref_utf8 .latin1 (by decide) m subst ch _ hr.1
    | utf8 =>
      cases sg with
      | good v us =>
        obtain ⟨⟨rfl, hv⟩, hle⟩ := hr
        have hle' := hle ch us rfl
        simp [refStep, stepCh, measureCh, charError_of_lt hv, writeUtf8_eq ch hle', utf8Measure_eq ch hle']
      | bad u =>
        obtain ⟨⟨he, hgt⟩, _⟩ := hr
        by_cases hm : m = .checkValidity <;> simp [refStep, stepCh, measureCh, hm, he, repl8, utf8Measure_gt hgt, sub8_len]
  | utf32 =>
    simp only [Rel] at hr
    by_cases hle : ch ≤ 0x10FFFF
    · rw [if_pos hle] at hr; subst hr
      cases dst with
      | utf32 => exact absurd rfl hne
      | utf8 => simp [refStep, stepCh, measureCh, writeUtf8_eq ch hle, utf8Measure_eq ch hle]
      | utf16 => simp [refStep, stepCh, measureCh, writeUtf16_eq ch hle, utf16Measure_eq ch hle, hle]
      | latin1 =>
        have hng : ¬ ch > 0x10FFFF := by omega
        by_cases hl : ch < 0x100 <;> cases subst <;> simp [refStep, stepCh, measureCh, latin1Tail_eq, hl, hng]
    · rw [if_neg hle] at hr; subst hr
      have hgt : ch > 0x10FFFF := by omega
      cases dst with
      | utf32 => exact absurd rfl hne
      | utf8 =>
        by_cases hm : m = .checkValidity <;>
          simp [refStep, stepCh, measureCh, hm, writeUtf8_none ch hgt, repl8, utf8Measure_gt hgt, sub8_len]
      | utf16 =>
        by_cases hm : m = .checkValidity <;>
          simp [refStep, stepCh, measureCh, hm, writeUtf16_none ch hgt, repl16, utf16Measure_gt hgt]
      | latin1 =>
        have hl : ¬ ch < 0x100 := by omega
        cases subst <;> by_cases hm : m = .checkValidity <;>
          simp [refStep, stepCh, measureCh, hm, latin1Tail_eq, hgt, hl, replL1, questionMark]
  | latin1 =>
    obtain ⟨rfl, hb⟩ := hr
    cases dst with
    | latin1 => exact absurd rfl hne
    | utf8 =>
      have h := stepCh_latin1_utf8 m subst hb
      simp [refStep, h.1, h.2]
    | utf16 =>
      simp [refStep, stepCh, measureCh, encUtf16, (by omega : ch < 0x10000), (by omega : ch ≤ 0x10FFFF)]
    | utf32 => simp [refStep, stepCh, measureCh]

theorem measureCh_pos (src dst : Enc) (ch : Nat) : 0 < measureCh src dst ch := by
  unfold measureCh
  split
  · exact utf16Measure_pos ch
  · exact utf16Measure_pos ch
  · exact utf8Measure_pos ch
  · exact utf8Measure_pos ch
  · split <;> decide
  · decide

theorem fill_ref (src dst : Enc) (hne : src ≠ dst) (m : Mode) (subst : Bool) {chs : List Nat} {sgs : List Seg}
    (h : All2 (Rel src) chs sgs) :
    (∀ out, refSteps src dst m subst sgs = some out →
        fill (stepCh src dst m subst) chs = ⟨out, .done⟩ ∧ out.length = (chs.map (measureCh src dst)).sum) ∧
    (refSteps src dst m subst sgs = none →
        (∃ k, (fill (stepCh src dst m subst) chs).status = .error k) ∧
        (fill (stepCh src dst m subst) chs).out.length ≤ (chs.map (measureCh src dst)).sum) := by
  induction h with
  | nil => simp [refSteps, fill]
  | @cons ch sg chs sgs hr _ ih =>
    have st := step_ref src dst hne m subst ch sg hr
    simp only [refSteps, fill, List.map_cons, List.sum_cons]
    cases hs : refStep src dst m subst sg with
    | none =>
      obtain ⟨k, hk⟩ := st.2 hs
      simp [hk]
    | some us =>
      obtain ⟨hu, hm⟩ := st.1 us hs
      rw [hu]
      cases hrs : refSteps src dst m subst sgs with
      | none =>
        obtain ⟨⟨k, hk⟩, hl⟩ := ih.2 hrs
        simp [hk, hm]; omega
      | some r =>
        obtain ⟨hf, hl⟩ := ih.1 r hrs
        simp [hf, hm, hl]

theorem nil_of_measure_zero {src dst : Enc} {chs : List Nat} {sgs : List Seg} (h : All2 (Rel src) chs sgs)
    (hn : (chs.map (measureCh src dst)).sum = 0) : sgs = [] := by
  cases h with
  | nil => rfl
  | @cons ch _ _ _ _ _ =>
    rw [List.map_cons, List.sum_cons] at hn
    have := measureCh_pos src dst ch; omega

theorem convert_eq_reference (src dst : Enc) (hne : src ≠ dst) (m : Mode) (subst : Bool) (xs : List Nat)
    (hu : UnitsLt (unitBound src) xs) (hlen : xs.length < hugeBufferSize) :
    convert src dst m subst (some xs) = reference src dst m subst xs := by
  have hrel := decode_rel src xs hu
  have hf := fill_ref src dst hne m subst hrel
  unfold convert reference Utf.measure
  simp only [if_neg (by omega : ¬ xs.length ≥ hugeBufferSize)]
  by_cases hn : ((decode src xs).map (measureCh src dst)).sum = 0
  · rw [if_pos hn, nil_of_measure_zero hrel hn]; rfl
  · rw [if_neg hn]
    cases hrs : refSteps src dst m subst (seg src xs) with
    | some out =>
      obtain ⟨hfe, hl⟩ := hf.1 out hrs
      simp [hfe, hl]
    | none =>
      obtain ⟨⟨k, hk⟩, hl⟩ := hf.2 hrs
      rw [if_neg (by omega), hk]

theorem convert_ok_length (src dst : Enc) (m : Mode) (subst : Bool) (xs out : List Nat)
    (h : convert src dst m subst (some xs) = .ok out) : out.length = Utf.measure src dst xs := by
  simp only [convert] at h
  -- the wrapper returns a buffer on two paths only: the empty shortcut and the final size test
  -- (the first two tests by name: `split at h` is slow to check while the whole wrapper is in `h`)
  by_cases hh : xs.length ≥ hugeBufferSize
  · rw [if_pos hh] at h; cases h
  by_cases hn : Utf.measure src dst xs = 0
  · rw [if_neg hh, if_pos hn] at h; cases h; rw [hn]; rfl
  rw [if_neg hh, if_neg hn] at h
  split at h
  · cases h
  split at h
  · cases h
  · cases h
  · split at h
    · next he => cases h; exact he
    · cases h

theorem decodeUtf16_length_le (xs : List Nat) : (decodeUtf16 xs).length ≤ xs.length := by
  induction xs using seq16_induction with
  | nil => exact Nat.le_refl _
  | seq r hs ih =>
    have := List.length_pos_iff.2 hs.ne_nil
    rw [decodeUtf16_seq hs, List.length_cons, List.length_append]; omega
  | bad hn ih => rw [decodeUtf16_bad hn, List.length_cons, List.length_cons]; omega

theorem measure_wide_utf8_le (src : Enc) (hs : src = .utf16 ∨ src = .utf32) (xs : List Nat) :
    Utf.measure src .utf8 xs ≤ 4 * xs.length := by
  unfold Utf.measure
  have h1 := sum_map_le (measureCh src .utf8) 4 (by
    intro x; rcases hs with rfl | rfl <;> simp only [measureCh] <;> exact utf8Measure_le x) (decode src xs)
  have h2 : (decode src xs).length ≤ xs.length := by
    rcases hs with rfl | rfl
    · exact decodeUtf16_length_le xs
    · simp [decode]
  calc _ ≤ 4 * (decode src xs).length := h1
    _ ≤ 4 * xs.length := Nat.mul_le_mul_left 4 h2

theorem convert_wide_utf8_length_le (src : Enc) (hs : src = .utf16 ∨ src = .utf32) (m : Mode) (subst : Bool) (xs out : List Nat)
    (h : convert src .utf8 m subst (some xs) = .ok out) : out.length ≤ 4 * xs.length := by
  rw [convert_ok_length src .utf8 m subst xs out h]
  exact measure_wide_utf8_le src hs xs

end StVerif.Lemmas.Utf
