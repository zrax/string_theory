/-
  The printing half of C12.  The backwards-filling digit loop as an equation (`uintFormat_eq`); with the
  machine arithmetic of Lemmas/MachineInt.lean every printer of the model prints the canonical text
  (`fromInt_eq`), the other printers being `fromInt` at another type or base (`formatInt_eq_fromInt`,
  `streamInt_eq_formatInt`).  With them the facts about `IntTy` that the parsing half needs as well: the range
  `holds` stands for, by signedness and width (`holds_signed`, `holds_unsigned`, `holds_mono`, `holds_long`),
  and that a cast to a type that holds the value returns it (`cast_fits`).
-/
import StVerif.Model.Num
import StVerif.Lemmas.Digits
import StVerif.Lemmas.MachineInt
import StVerif.Lemmas.Outcome

namespace StVerif.Lemmas.Num
open StVerif.Num StVerif.Spec.Digits StVerif.Lemmas.Digits

theorem digitCharCode_eq (upper : Bool) : ∀ d, d < 36 → digitCharCode upper d = digitChar upper d := by
  cases upper <;> decide +kernel

theorem map_digitCharCode {radix : Nat} (hr : 2 ≤ radix) (hr' : radix ≤ 36) (upper : Bool) (value : Nat) :
    (digits radix value).map (digitCharCode upper) = natText radix upper value :=
  List.map_congr_left fun d hd => digitCharCode_eq upper d (Nat.lt_of_lt_of_le (digits_lt_base radix hr value d hd) hr')

theorem uintLoop_eq {radix : Nat} (hr : 2 ≤ radix) (upper : Bool) (start value : Nat) (acc : List Nat)
    (hl : (digits0 radix value).length ≤ start) :
    uintLoop radix upper start value acc =
      .ok (start - (digits0 radix value).length, (digits0 radix value).map (digitCharCode upper) ++ acc) := by
  induction start, value, acc using uintLoop.induct radix upper with
  | case1 start acc => rw [uintLoop]; rfl
  | case2 acc v => rw [digits0_step radix hr (v + 1) (Nat.succ_ne_zero v)] at hl; simp at hl
  | case3 start v acc ih =>
    rw [digits0_step radix hr (v + 1) (Nat.succ_ne_zero v)] at hl ⊢
    rw [List.length_append, List.length_singleton] at hl ⊢
    rw [uintLoop, ih (Nat.le_of_succ_le_succ hl), List.map_append, List.append_assoc, Nat.succ_sub_succ]
    rfl

/-- `cs` is a variable so that a caller with `radix ≤ 36` passes `map_digitCharCode` and gets the canonical text. -/
theorem uintFormat_eq {w value radix : Nat} {upper : Bool} (hr : 2 ≤ radix) (hw : 0 < w) (hv : value < 2 ^ w)
    {cs : List Nat} (hcs : (digits radix value).map (digitCharCode upper) = cs) :
    uintFormat w value radix upper = .ok { start := w - cs.length, chars := cs } := by
  have hl := digits_length_le_of_lt_two_pow radix hr w value hw hv
  subst hcs
  rw [List.length_map]
  unfold uintFormat
  rw [if_neg (Nat.ne_zero_of_lt hr)]
  split
  · next h0 =>
    subst h0
    obtain ⟨w', rfl⟩ : ∃ w', w = w' + 1 := ⟨w - 1, (Nat.sub_add_cancel hw).symm⟩
    rw [digits_zero]; rfl
  · next h0 =>
    rw [← digits0_of_ne h0] at hl ⊢
    rw [uintLoop_eq hr upper w value [] hl, List.append_nil]; rfl

theorem size_mk {w : Nat} {cs : List Nat} (h : cs.length ≤ w) :
    ({ start := w - cs.length, chars := cs } : UFmt).size w = cs.length :=
  Nat.sub_sub_self h

theorem copy_mk {w : Nat} {cs : List Nat} (h : cs.length ≤ w) :
    ({ start := w - cs.length, chars := cs } : UFmt).copy w = cs := by
  unfold UFmt.copy
  rw [size_mk h, List.take_length]

theorem miniFormatIntU_eq {w radix : Nat} (hr : 2 ≤ radix) (hr' : radix ≤ 36) (upper : Bool) (hw : 0 < w) {value : Nat}
    (hv : value < 2 ^ w) : miniFormatIntU w radix upper value = .ok (natText radix upper value) := by
  unfold miniFormatIntU
  rw [wrapW_natCast hv, uintFormat_eq hr hw hv (map_digitCharCode hr hr' upper value),
    Outcome.ok_bind', copy_mk (natText_length_le hr upper hw hv)]
  rfl

theorem miniFormatIntS_eq {w radix : Nat} (hr : 2 ≤ radix) (hr' : radix ≤ 36) (upper : Bool) (hw : 0 < w) {v : Int}
    (hv : v.natAbs < 2 ^ w) : miniFormatIntS w radix upper v = .ok (intText radix upper v) := by
  unfold miniFormatIntS
  dsimp only
  rw [absValue_eq w v hv, uintFormat_eq hr hw hv (map_digitCharCode hr hr' upper v.natAbs),
    Outcome.ok_bind', copy_mk (natText_length_le hr upper hw hv)]
  split
  · next h => rw [intText_neg h]; rfl
  · next h => rw [intText_nonneg (Int.not_lt.mp h)]; rfl

theorem formatNumericS_eq (w : Nat) {dc : DigitClass} {radix : Nat} {upper : Bool} (h : radixOf dc = .ok (radix, upper))
    (v : Int) : formatNumericS w dc v = miniFormatIntS w radix upper v := by
  unfold formatNumericS miniFormatIntS signThen
  rw [h, Outcome.ok_bind']
  by_cases hneg : v < 0
  · simp only [hneg, if_true, decide_true]; rfl
  · simp only [hneg, if_false, decide_false]; rfl

theorem formatNumericU_eq (w : Nat) {dc : DigitClass} {radix : Nat} {upper : Bool} (h : radixOf dc = .ok (radix, upper))
    (v : Nat) : formatNumericU w dc v = miniFormatIntU w radix upper v := by
  unfold formatNumericU
  rw [h]; rfl

theorem bits_pos (t : IntTy) : 0 < t.bits := by cases t <;> decide

theorem bits_le_64 (t : IntTy) : t.bits ≤ 64 := by cases t <;> decide

theorem holds_signed {t : IntTy} (ht : t.signed = true) {v : Int} (hv : t.holds v) :
    -(2 ^ (t.bits - 1) : Int) ≤ v ∧ v < 2 ^ (t.bits - 1) :=
  (if_pos ht).mp hv

theorem holds_unsigned {t : IntTy} (ht : t.signed = false) {v : Int} (hv : t.holds v) : 0 ≤ v ∧ v < 2 ^ t.bits :=
  (if_neg (ht ▸ Bool.false_ne_true)).mp hv

theorem natAbs_lt {t : IntTy} {v : Int} (hv : t.holds v) : v.natAbs < 2 ^ t.bits := by
  have hp := Nat.two_pow_pred_lt_two_pow (bits_pos t)
  unfold IntTy.holds at hv
  rw [← two_pow_cast, ← two_pow_cast] at hv
  split at hv <;> omega

theorem holds_mono {t t' : IntTy} (hs : t'.signed = t.signed) (hw : t.bits ≤ t'.bits) {v : Int} (hv : t.holds v) :
    t'.holds v := by
  unfold IntTy.holds
  cases ht : t.signed with
  | true =>
    have h := holds_signed ht hv
    have hle := two_pow_le (Nat.sub_le_sub_right hw 1)
    rw [if_pos (hs.trans ht)]
    exact ⟨Int.le_trans (Int.neg_le_neg hle) h.1, Int.lt_of_lt_of_le h.2 hle⟩
  | false =>
    have h := holds_unsigned ht hv
    rw [if_neg (by rw [hs, ht]; decide)]
    exact ⟨h.1, Int.lt_of_lt_of_le h.2 (two_pow_le hw)⟩

theorem holds_long {t : IntTy} (ht : t.signed = true) {v : Int} (hv : t.holds v) : -(2 ^ 63 : Int) ≤ v ∧ v < 2 ^ 63 :=
  holds_signed (t := .s64) rfl (holds_mono (t' := .s64) ht.symm (bits_le_64 t) hv)

/-- the `static_cast` from `long` / `unsigned long` to a type that holds the value returns it -/
theorem cast_fits (t : IntTy) (x : Int) (hx : t.holds x) :
    (if t.signed then toSigned t.bits (wrapW 64 x) else ((x.toNat % 2 ^ t.bits : Nat) : Int)) = x := by
  cases ht : t.signed with
  | true =>
    have := holds_signed ht hx
    rw [if_pos rfl]
    exact toSigned_wrapW (bits_pos t) (bits_le_64 t) this.1 this.2
  | false =>
    have := holds_unsigned ht hx
    rw [← two_pow_cast] at this
    rw [if_neg (by decide), Nat.mod_eq_of_lt ((Int.toNat_lt this.1).mpr this.2), Int.toNat_of_nonneg this.1]

/-- the type whose `string_stream` overload a value of type `t` selects: anything narrower than `int`
    promotes to `int` -/
def promoted (t : IntTy) : IntTy := if t.bits < 32 then .s32 else t

theorem holds_promoted {t : IntTy} {v : Int} (hv : t.holds v) : (promoted t).holds v := by
  unfold promoted
  split
  · next hlt =>
    cases ht : t.signed with
    | true => exact holds_mono (t' := .s32) ht.symm (Nat.le_of_lt hlt) hv
    | false =>
      have h := holds_unsigned ht hv
      exact ⟨Int.le_trans (by decide) h.1, Int.lt_of_lt_of_le h.2 (two_pow_le (Nat.le_of_lt_succ hlt))⟩
  · exact hv

theorem fromInt_eq {t : IntTy} {base : Nat} (hb : 2 ≤ base) (hb' : base ≤ 36) (upper : Bool) {v : Int} (hv : t.holds v) :
    fromInt t base upper v = .ok (intText base upper v) := by
  have hlt := natAbs_lt hv
  unfold fromInt
  split
  · exact miniFormatIntS_eq hb hb' upper (bits_pos t) hlt
  · next ht =>
    obtain ⟨n, rfl⟩ := Int.eq_ofNat_of_zero_le (holds_unsigned (by simpa using ht) hv).1
    rw [intText_nonneg (Int.natCast_nonneg n)]
    exact miniFormatIntU_eq hb hb' upper (bits_pos t) hlt

theorem formatInt_eq_fromInt (t : IntTy) (dc : DigitClass) (radix : Nat) (upper : Bool)
    (h : radixOf dc = .ok (radix, upper)) (v : Int) : formatInt t dc v = fromInt t radix upper v := by
  unfold formatInt fromInt
  rw [formatNumericS_eq _ h, formatNumericU_eq _ h]

theorem streamInt_eq_formatInt (t : IntTy) (v : Int) : streamInt t v = formatInt (promoted t) .dec v := by
  unfold streamInt formatInt promoted
  by_cases h : t.bits < 32
  · rw [if_pos h, if_pos h, Nat.max_eq_right (Nat.le_of_lt h), ite_self]; rfl
  · rw [if_neg h, if_neg h, Nat.max_eq_left (Nat.le_of_not_lt h)]; rfl

end StVerif.Lemmas.Num
