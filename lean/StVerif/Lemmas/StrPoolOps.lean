/-
  One specification for every string-level operation (`SOp`), under an arbitrary fault schedule: `sop_run`.
  The machine does what the value-level specification `Sched.effect` computes from the operands' reports, changes
  nothing but the operation's targets, and leaves the invariant of C05 and no temporary behind; `bad_alloc` — only when
  a fault is scheduled — is the one other way out (`Refines`).

  `sop_fault_spec` (C19) forgets the values, `sop_spec` (C04, C18) is its case `failAt = none`.
-/
import StVerif.Lemmas.SchedEffect

namespace StVerif.StrPool
open StVerif.Pool StVerif.Sched

/-- ids of history objects (strings 0..7, the buffer slot 8, …) are below the temporaries -/
def userId (x : Nat) : Prop := x < 100

theorem userId_not_temp {x : Nat} (h : userId x) : ¬ isTemp x := by
  unfold userId at h; unfold isTemp tmpA tmpB tmpC tmpD; omega

theorem userId_bufSlot : userId bufSlot := by unfold userId bufSlot; decide

theorem userId_zero : userId 0 := Nat.zero_lt_succ _

/-- preconditions: constructor targets are dead user ids, every other named object is alive -/
def SOp.pre : SOp → Pool → Prop
  | .ctorText o _ _, p | .ctorDefault o, p => userId o ∧ p.objs o = none
  | .ctorCopy o s, p | .ctorMove o s, p => userId o ∧ userId s ∧ p.objs o = none ∧ alive p s
  | .dtor o, p | .clear o, p | .appendText o _ _, p | .appendChar o _, p | .setText o _ _, p => userId o ∧ alive p o
  | .assignCopy o s, p | .assignMove o s, p | .appendStr o s, p => userId o ∧ userId s ∧ alive p o ∧ alive p s
  | .setConv o c, p | .assignConv o c, p => userId o ∧ alive p o ∧ ConvOk c
  | .bufCtor _, p => p.objs bufSlot = none
  | .setBufMove o _, p | .setBufCopy o _, p => userId o ∧ o ≠ bufSlot ∧ alive p o ∧ alive p bufSlot
  | .ctorBufMove o _, p | .ctorBufCopy o _, p => userId o ∧ o ≠ bufSlot ∧ p.objs o = none ∧ alive p bufSlot
  | .derive ds, p => (∀ d ∈ ds.map (·.1), userId d ∧ p.objs d = none) ∧ (ds.map (·.1)).Nodup
  | .deriveThrow e, _ => e ≠ .badAlloc
  | .query, _ => True

theorem pre_congr {p p' : Pool} (h : ∀ x, p'.objs x = p.objs x) (op : SOp) (hpre : op.pre p) : op.pre p' := by
  -- `pre` looks at nothing but `objs`: with `p'.objs` replaced by `p.objs`, each case is `hpre` itself
  obtain ⟨_, objs, _, _, _, _⟩ := p'
  cases (funext h : objs = p.objs)
  cases op <;> exact hpre

def SOutcome (r : Res Unit) (p : Pool) (targets : List Nat) : Prop :=
  (∃ p', r = .ok () p' ∧ Succ p p' (fun x => x ∈ targets) ∧ TempsDead p' ∧ p'.failAt = none) ∨
  (∃ e p', r = .throw e p' ∧ e ≠ .badAlloc ∧ Succ p p' (fun _ => False) ∧ TempsDead p' ∧ p'.failAt = none)

/-- outcome of a string-level operation when an allocation may fail.  After `bad_alloc` each target holds its previous
    value, or is empty, or was a constructor target (then it does not exist, except for the results of a const operation
    built before the failing one).  In every case the invariant of C05 holds afterwards (`Succ.inv`). -/
def SFOutcome (r : Res Unit) (p : Pool) (targets : List Nat) : Prop :=
  (∃ p', r = .ok () p' ∧ Succ p p' (· ∈ targets) ∧ TempsDead p')
  ∨ (∃ e p', r = .throw e p' ∧ e ≠ .badAlloc ∧ Succ p p' (fun _ => False) ∧ TempsDead p')
  ∨ (∃ p', r = .throw .badAlloc p' ∧ p.failAt ≠ none ∧ Succ p p' (· ∈ targets) ∧ TempsDead p' ∧
        ∀ t ∈ targets, view p' t = view p t ∨ view p' t = some (0, []) ∨ p.objs t = none)

theorem forall_mem_pair {α : Type} {P : α → Prop} {a b : α} (ha : P a) (hb : P b) : ∀ x ∈ [a, b], P x :=
  List.forall_mem_cons.mpr ⟨ha, List.forall_mem_singleton.mpr hb⟩

theorem SOp.targets_user {op : SOp} {p : Pool} (hpre : op.pre p) : ∀ x ∈ op.targets, userId x := by
  cases op
  case ctorMove | assignMove => exact forall_mem_pair hpre.1 hpre.2.1
  case setBufMove | ctorBufMove => exact forall_mem_pair hpre.1 userId_bufSlot
  case bufCtor => exact List.forall_mem_singleton.mpr userId_bufSlot
  case derive => exact fun x hx => (hpre.1 x hx).1
  case deriveThrow | query => exact fun _ h => nomatch h
  all_goals exact List.forall_mem_singleton.mpr hpre.1

theorem tempsDead_of_succ {p p' : Pool} {targets : List Nat} (s : Succ p p' (· ∈ targets)) (hT : TempsDead p)
    (hu : ∀ x ∈ targets, userId x) : TempsDead p' := fun x hx => by
  rw [s.objs x (fun h => userId_not_temp (hu x h) hx)]; exact hT x hx

def Refines (r : Res Unit) (p : Pool) (targets : List Nat) (x : Except Exc (List (Nat × Option View))) : Prop :=
  (match x with
   | .ok us => ∃ p', r = .ok () p' ∧ Succ p p' (· ∈ targets) ∧ ∀ xv ∈ us, view p' xv.1 = xv.2
   | .error e => ∃ p', r = .throw e p' ∧ e ≠ .badAlloc ∧ Succ p p' (fun _ => False)) ∨
  (∃ p', r = .throw .badAlloc p' ∧ p.failAt ≠ none ∧ Succ p p' (· ∈ targets) ∧
      ∀ t ∈ targets, view p' t = view p t ∨ view p' t = some (0, []) ∨ p.objs t = none)

theorem Refines.of_ends {r : Res Unit} {p : Pool} {T : Nat → Prop} {Q : Pool → Prop} {C : Prop} {targets : List Nat}
    {x : Except Exc (List (Nat × Option View))} (h : Ends r p T Q C) (hT : ∀ x, T x → x ∈ targets)
    (hQ : ∀ p', Q p' → ∃ us, x = .ok us ∧ ∀ xv ∈ us, view p' xv.1 = xv.2)
    (hC : C → x = .error .unicodeError) : Refines r p targets x := by
  rcases h with ⟨p', h1, s1, q1⟩ | ⟨e, p', h1, s1, ⟨hc, rfl⟩ | ⟨rfl, f1⟩⟩
  · obtain ⟨us, rfl, v1⟩ := hQ p' q1
    exact Or.inl ⟨p', h1, s1.mono hT, v1⟩
  · rw [hC hc]
    exact Or.inl ⟨p', h1, by decide, s1⟩
  · exact Or.inr ⟨p', h1, f1, s1.mono (fun _ h => h.elim), fun t _ => Or.inl (s1.view t id)⟩

theorem Refines.of_sets {r : Res Unit} {p : Pool} {o : Nat} {x : Option (List Nat)} (h : Sets r p o x) :
    Refines r p [o] (store o x) :=
  .of_ends h (fun _ hx => List.mem_singleton.mpr hx)
    (by rintro _ ⟨v, rfl, q⟩; exact ⟨_, rfl, List.forall_mem_singleton.mpr q⟩) (by rintro rfl; rfl)

theorem Refines.of_sets₂ {r : Res Unit} {p : Pool} {o b : Nat} {w : Option View} {x : Option (List Nat)}
    (h : Ends r p (fun y => y = o ∨ y = b) (fun p' => ∃ v, x = some v ∧ view p' o = mk v ∧ view p' b = w) (x = none)) :
    Refines r p [o, b] (store₂ o b w x) :=
  .of_ends h (fun _ hx => List.mem_cons.mpr (hx.imp_right List.mem_singleton.mpr))
    (by rintro _ ⟨v, rfl, q, q'⟩; exact ⟨_, rfl, forall_mem_pair q q'⟩) (by rintro rfl; rfl)

theorem Refines.of_step {p : Pool} (hI : Inv p) (op : Op) (hpre : Pool.pre op p) {targets : List Nat}
    {us : List (Nat × Option View)} (hT : ∀ x, op.T x → x ∈ targets)
    (hok : ∀ p', okPost p op p' → ∀ xv ∈ us, view p' xv.1 = xv.2) :
    Refines (op.run p) p targets (.ok us) := by
  rcases (run_spec hI op hpre).cases with ⟨p', h1, s1, q1⟩ | ⟨p', h1, f1, s1, q1⟩
  · exact Or.inl ⟨p', h1, s1.mono hT, hok p' q1⟩
  · refine Or.inr ⟨p', h1, f1, s1.mono hT, fun t _ => ?_⟩
    by_cases ht : op.T t
    · exact (throwPost_operand hpre q1 ht).imp_right (·.imp_right (·.1))
    · exact Or.inl (s1.view t ht)

theorem Refines.of_step₁ {p : Pool} (hI : Inv p) (op : Op) (hpre : Pool.pre op p) {o : Nat} {w : Option View}
    (hT : op.T = (· = o)) (hok : okPost p op = fun p' => view p' o = w) :
    Refines (op.run p) p [o] (.ok [(o, w)]) :=
  .of_step hI op hpre (fun x h => List.mem_singleton.mpr ((congrFun hT x).mp h))
    (fun p' q => List.forall_mem_singleton.mpr ((congrFun hok p').mp q))

theorem sop_run {p : Pool} (hI : Inv p) (hT : TempsDead p) (op : SOp) (hpre : op.pre p) :
    Refines (op.run p) p op.targets (effect (view p) op) := by
  have dA := hT tmpA isTemp_A
  have dB := hT tmpB isTemp_B
  have dC := hT tmpC isTemp_C
  have ne : ∀ {o : Nat}, userId o → o ≠ tmpA ∧ o ≠ tmpB ∧ o ≠ tmpC := by
    intro o h; unfold userId at h; unfold tmpA tmpB tmpC; omega
  cases op with
  | ctorText o us m =>
    obtain ⟨hu, ho⟩ := hpre
    obtain ⟨nA, _, nC⟩ := ne hu
    exact .of_sets (ctorText_f hI ho dA dC nA nC us m)
  | ctorDefault o =>
    exact .of_step₁ hI (.ctorDefault o) hpre.2 rfl rfl
  | ctorCopy o s =>
    obtain ⟨_, _, ho, hs⟩ := hpre
    exact .of_step₁ hI (.ctorCopy o s) ⟨ho, hs⟩ rfl rfl
  | ctorMove o s =>
    obtain ⟨_, _, ho, hs⟩ := hpre
    exact .of_step hI (.ctorMove o s) ⟨ho, hs⟩ (Op.T_ids _)
      (fun _ q => forall_mem_pair q.1 q.2)
  | dtor o =>
    exact .of_step₁ hI (.dtor o) hpre.2 rfl rfl
  | clear o =>
    exact .of_step₁ hI (.clear o) hpre.2 rfl rfl
  | assignCopy o s =>
    obtain ⟨_, _, ho, hs⟩ := hpre
    exact .of_step₁ hI (.assignCopy o s) ⟨ho, hs⟩ rfl rfl
  | assignMove o s =>
    obtain ⟨_, _, ho, hs⟩ := hpre
    exact .of_step hI (.assignMove o s) ⟨ho, hs⟩ (Op.T_ids _)
      (fun _ q => forall_mem_pair q.1 q.2)
  | appendStr o s =>
    obtain ⟨hu, _, ho, hs⟩ := hpre
    obtain ⟨_, nB, _⟩ := ne hu
    exact .of_sets (appendStr_f hI (view_eq_mk hI ho) (view_eq_mk hI hs) dA dB nB)
  | appendText o us m =>
    exact .of_sets (appendText_f hI (view_eq_mk hI hpre.2) hT (userId_not_temp hpre.1) us m)
  | appendChar o ch =>
    obtain ⟨_, nB, _⟩ := ne hpre.1
    exact .of_sets (appendChar_f hI (view_eq_mk hI hpre.2) dA dB nB ch)
  | setText o us m =>
    obtain ⟨hu, ho⟩ := hpre
    obtain ⟨nA, _, nC⟩ := ne hu
    exact .of_sets (setUtf8_f hI ho dA dC nA nC us m)
  | setConv o c =>
    obtain ⟨hu, ho, hc⟩ := hpre
    obtain ⟨nA, _, _⟩ := ne hu
    exact .of_sets (setConverted_f hI ho dA nA hc)
  | assignConv o c =>
    obtain ⟨hu, ho, hc⟩ := hpre
    obtain ⟨_, nB, _⟩ := ne hu
    exact .of_sets (assignConverted_f hI ho dA dB nB hc)
  | bufCtor us =>
    exact .of_step₁ hI (.ctorUnits bufSlot us) hpre rfl rfl
  | setBufMove o m =>
    obtain ⟨hu, hob, ho, hb⟩ := hpre
    obtain ⟨_, _, nC⟩ := ne hu
    exact .of_sets₂ ((setBufMove_f hI ho (view_eq_mk hI hb) dC nC m).mono
      (by rintro _ ⟨v, hv, q, w⟩; exact ⟨v, hv, q, w hob.symm⟩) id)
  | setBufCopy o m =>
    obtain ⟨hu, _, ho, hb⟩ := hpre
    obtain ⟨_, _, nC⟩ := ne hu
    rcases setBufCopy_f hI ho (view_eq_mk hI hb) dC nC m with h | ⟨p', h1, f1, s1, v1⟩
    · exact .of_sets h
    · exact Or.inr ⟨p', h1, f1, s1.mono (fun _ h => List.mem_singleton.mpr h), fun t ht => by
        cases List.eq_of_mem_singleton ht; exact v1.elim Or.inl (fun h => Or.inr (Or.inl h))⟩
  | ctorBufMove o m =>
    obtain ⟨hu, _, ho, hb⟩ := hpre
    obtain ⟨_, _, nC⟩ := ne hu
    exact .of_sets₂ (ctorBufMove_f hI ho (view_eq_mk hI hb) dC nC m)
  | ctorBufCopy o m =>
    obtain ⟨hu, _, ho, hb⟩ := hpre
    obtain ⟨_, _, nC⟩ := ne hu
    exact .of_sets (ctorBufCopy_f hI ho (view_eq_mk hI hb) dC nC m)
  | derive ds =>
    obtain ⟨hd, hnd⟩ := hpre
    rcases deriveAll_f hI ds (fun d h => (hd d h).2) hnd with ⟨p', h1, s1, v1⟩ | ⟨p', h1, f1, s1⟩
    · refine Or.inl ⟨p', h1, s1, fun xv hxv => ?_⟩
      obtain ⟨dv, hdv, rfl⟩ := List.mem_map.mp hxv
      exact v1 dv hdv
    · exact Or.inr ⟨p', h1, f1, s1, fun t ht => Or.inr (Or.inr (hd t ht).2)⟩
  | deriveThrow e =>
    exact Or.inl ⟨p, rfl, hpre, Succ.refl' hI _⟩
  | query =>
    exact Or.inl ⟨p, rfl, Succ.refl' hI _, fun _ h => nomatch h⟩

theorem sop_run_ok {p : Pool} (hI : Inv p) (hF : p.failAt = none) (hT : TempsDead p) (op : SOp) (hpre : op.pre p) :
    match effect (view p) op with
    | .ok us => ∃ p', op.run p = .ok () p' ∧ Succ p p' (· ∈ op.targets) ∧ ∀ xv ∈ us, view p' xv.1 = xv.2
    | .error e => ∃ p', op.run p = .throw e p' ∧ e ≠ .badAlloc ∧ Succ p p' (fun _ => False) :=
  (sop_run hI hT op hpre).resolve_right (by rintro ⟨_, _, f1, _⟩; exact f1 hF)

theorem sop_fault_spec {p : Pool} (hI : Inv p) (hT : TempsDead p) (op : SOp) (hpre : op.pre p) :
    SFOutcome (op.run p) p op.targets := by
  have hu := SOp.targets_user hpre
  rcases sop_run hI hT op hpre with h | ⟨p', h1, f1, s1, v1⟩
  · cases hx : effect (view p) op with
    | ok us =>
      rw [hx] at h
      obtain ⟨p', h1, s1, _⟩ := h
      exact Or.inl ⟨p', h1, s1, tempsDead_of_succ s1 hT hu⟩
    | error e =>
      rw [hx] at h
      obtain ⟨p', h1, he, s1⟩ := h
      exact Or.inr (Or.inl ⟨e, p', h1, he, s1, tempsDead_of_succ (s1.mono fun _ h => h.elim) hT hu⟩)
  · exact Or.inr (Or.inr ⟨p', h1, f1, s1, tempsDead_of_succ s1 hT hu, v1⟩)

theorem sop_spec {p : Pool} (hI : Inv p) (hF : p.failAt = none) (hT : TempsDead p) (op : SOp) (hpre : op.pre p) :
    SOutcome (op.run p) p op.targets := by
  rcases sop_fault_spec hI hT op hpre with ⟨p', h1, s1, t1⟩ | ⟨e, p', h1, he, s1, t1⟩ | ⟨_, _, f1, _⟩
  · exact Or.inl ⟨p', h1, s1, t1, s1.failAt.trans hF⟩
  · exact Or.inr ⟨e, p', h1, he, s1, t1, s1.failAt.trans hF⟩
  · exact absurd hF f1

end StVerif.StrPool
