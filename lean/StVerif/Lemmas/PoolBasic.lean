/-
  Evaluation lemmas for the pool machine (Model/Pool.lean): the monad, the primitive
  operations on explicit states, function updates and `overwrite`.
-/
import StVerif.Lemmas.PoolDefs
import StVerif.Lemmas.ListFacts

namespace StVerif.Pool

variable {i : Nat} {p : Pool} {blk us : List Nat}

@[simp] theorem bind_apply {α β} (x : M α) (f : α → M β) (p : Pool) :
    (x >>= f) p = match x p with
      | .ok a p' => f a p' | .fault e p' => .fault e p' | .throw e p' => .throw e p' := rfl
@[simp] theorem pure_apply {α} (a : α) (p : Pool) : (pure a : M α) p = .ok a p := rfl
@[simp] theorem getP_apply (p : Pool) : getP p = .ok p p := rfl
def Res.pool {α : Type} : Res α → Pool
  | .ok _ p | .fault _ p | .throw _ p => p

@[simp] theorem fault_apply {α} (f : Fault) (p : Pool) : (fault f : M α) p = .fault f p := rfl

@[simp] theorem upd_same {α} (f : Nat → α) (i : Nat) (v : α) : upd f i v i = v := if_pos rfl
theorem upd_other {α} (f : Nat → α) {x : Nat} (v : α) (h : x ≠ i) : upd f i v x = f x := if_neg h
theorem upd_apply {α} (f : Nat → α) (i x : Nat) (v : α) : upd f i v x = if x = i then v else f x := rfl
@[simp] theorem upd_upd {α} (f : Nat → α) (i : Nat) (v w : α) : upd (upd f i v) i w = upd f i w := by
  funext x; simp only [upd]; split <;> rfl

theorem upd_eq_self {α} {f : Nat → α} {v : α} (h : f i = v) : upd f i v = f :=
  funext fun _ => ite_eq_right_iff.mpr fun hx => hx ▸ h.symm

theorem getObj_some {o : Nat} {b : Buf} (h : p.objs o = some b) : getObj o p = .ok b p := by
  simp [getObj, h]

theorem setObj_eq (o : Nat) (b : Buf) (p : Pool) :
    setObj o b p = .ok () { p with objs := upd p.objs o (some b) } := rfl

theorem dropObj_eq (o : Nat) (p : Pool) :
    dropObj o p = .ok () { p with objs := upd p.objs o none } := rfl

theorem newBlock_ok (n : Nat) (h : p.failAt ≠ some (p.allocs + 1)) :
    newBlock n p = .ok (.heap p.next)
      { p with heap := upd p.heap p.next (some (List.replicate n 0xCD)), next := p.next + 1, allocs := p.allocs + 1 } := by
  simp [newBlock, h]; rfl

theorem newBlock_throw (n : Nat) (h : p.failAt = some (p.allocs + 1)) :
    newBlock n p = .throw .badAlloc { p with allocs := p.allocs + 1 } := by
  simp [newBlock, h]

theorem deleteBlock_some {k : Nat} (h : p.heap k = some blk) :
    deleteBlock (.heap k) p = .ok () { p with heap := upd p.heap k none } := by
  simp [deleteBlock, h]; rfl

theorem readUnits_heap {p : Pool} {k n : Nat} {blk : List Nat} (h : p.heap k = some blk) (hn : n ≤ blk.length) :
    readUnits (.heap k) n p = .ok (blk.take n) p := by
  simp [readUnits, h, hn]

theorem readUnits_loc {p : Pool} {o n : Nat} {b : Buf} (h : p.objs o = some b) (hn : n ≤ b.data.length) :
    readUnits (.loc o) n p = .ok (b.data.take n) p := by
  simp [readUnits, h, hn]

theorem writeUnits_heap {k a : Nat} (h : p.heap k = some blk) (hn : a + us.length ≤ blk.length) :
    writeUnits (.heap k) a us p = .ok () { p with heap := upd p.heap k (some (overwrite blk a us)) } := by
  simp [writeUnits, h, hn]; rfl

theorem writeUnits_loc {o a : Nat} {b : Buf} (h : p.objs o = some b) (hn : a + us.length ≤ b.data.length) :
    writeUnits (.loc o) a us p = .ok () { p with objs := upd p.objs o (some { b with data := overwrite b.data a us }) } := by
  simp [writeUnits, h, hn]; rfl

theorem length_overwrite {a : Nat} (h : a + us.length ≤ blk.length) : (overwrite blk a us).length = blk.length :=
  length_splice rfl h

theorem getElem?_overwrite {a : Nat} (h : a ≤ blk.length) (i : Nat) :
    (overwrite blk a us)[i]? =
      if i < a then blk[i]? else if i < a + us.length then us[i - a]? else blk[i]? :=
  getElem?_splice rfl h i

theorem getElem?_overwrite_lt {a : Nat} (h : a ≤ blk.length) (hi : i < a) : (overwrite blk a us)[i]? = blk[i]? := by
  rw [getElem?_overwrite h, if_pos hi]

theorem getElem?_overwrite_mid {a j : Nat} (h : a ≤ blk.length) (hj : j < us.length) :
    (overwrite blk a us)[a + j]? = us[j]? := by
  rw [getElem?_overwrite h, if_neg (Nat.not_lt.mpr (Nat.le_add_right a j)), if_pos (Nat.add_lt_add_left hj a),
    Nat.add_sub_cancel_left]

theorem getElem?_overwrite_ge {a : Nat} (h : a + us.length ≤ blk.length) (hi : a + us.length ≤ i) :
    (overwrite blk a us)[i]? = blk[i]? := by
  rw [getElem?_overwrite (Nat.le_of_add_right_le h), if_neg (Nat.not_lt.mpr (Nat.le_of_add_right_le hi)),
    if_neg (Nat.not_lt.mpr hi)]

theorem getElem?_overwrite_term {n v : Nat} (h : n < blk.length) : (overwrite blk n [v])[n]? = some v :=
  getElem?_overwrite_mid (us := [v]) (j := 0) (Nat.le_of_lt h) Nat.zero_lt_one

theorem overwrite_zero (blk us : List Nat) : overwrite blk 0 us = us ++ blk.drop us.length := by
  simp only [overwrite, List.take_zero, List.nil_append, Nat.zero_add]

theorem overwrite_term (blk : List Nat) (n v : Nat) : overwrite blk n [v] = blk.take n ++ v :: blk.drop (n + 1) := by
  simp only [overwrite, List.length_singleton, List.append_assoc, List.singleton_append]

theorem overwrite_all {old : List Nat} (h : old.length = us.length) : overwrite old 0 us = us := by
  rw [overwrite_zero, List.drop_of_length_le (Nat.le_of_eq h), List.append_nil]

/-- what every constructor and every producer writing through `data()` builds -/
theorem overwrite_fill (base us vs : List Nat) :
    overwrite (overwrite base 0 us) us.length vs = us ++ vs ++ base.drop (us.length + vs.length) := by
  rw [overwrite, overwrite_zero, List.take_left' rfl, List.drop_append, List.drop_drop,
    List.drop_of_length_le (Nat.le_add_right _ _), Nat.add_sub_cancel_left, List.nil_append]

theorem take_overwrite_zero : (overwrite blk 0 us).take us.length = us := by
  rw [overwrite_zero, List.take_left' rfl]

theorem take_overwrite_term {n : Nat} (h : n ≤ blk.length) (v : Nat) : (overwrite blk n [v]).take n = blk.take n := by
  rw [overwrite_term, List.take_left' (List.length_take_of_le h)]

theorem take_overwrite_within {a m : Nat} (h : a + us.length ≤ m) (hm : m ≤ blk.length) :
    (overwrite blk a us).take m = overwrite (blk.take m) a us := by
  have ham : a ≤ m := Nat.le_of_add_right_le h
  apply List.ext_getElem?
  intro i
  rw [List.getElem?_take, getElem?_overwrite (Nat.le_trans ham hm),
    getElem?_overwrite ((List.length_take_of_le hm).symm ▸ ham)]
  simp only [List.getElem?_take]
  by_cases h1 : i < m
  · simp only [h1, ↓reduceIte]
  · have h2 : ¬ i < a := by omega
    have h3 : ¬ i < a + us.length := by omega
    simp only [h1, h2, h3, ↓reduceIte]

@[simp] theorem length_zeros (n : Nat) : (zeros n).length = n := List.length_replicate
theorem getElem?_zeros {n : Nat} (h : i < n) : (zeros n)[i]? = some 0 := List.getElem?_replicate_of_lt h

end StVerif.Pool
