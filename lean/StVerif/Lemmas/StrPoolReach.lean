/-
  Histories of string-level operations: every state reached from the empty pool — through completed
  operations and through operations that threw — satisfies the invariant and has no temporary alive.
  `SReach`: no fault is ever scheduled (C04, C18); `SReachF`: any fault schedule may be installed before
  any operation (C19).  At the end the lemma C18's two `_throws_iff` theorems are read off
  (`Props.C18.throws_iff_effect`: an operation of a history throws `e` iff `Sched.effect` says so).
-/
import StVerif.Lemmas.StrPoolOps

namespace StVerif.StrPool
open StVerif.Pool

inductive SReach (L : Nat) : Pool → Prop
  | init : SReach L (Pool.init L)
  | ok {p p' : Pool} {op : SOp} : SReach L p → op.pre p → op.run p = .ok () p' → SReach L p'
  | thrown {p p' : Pool} {op : SOp} {e : Exc} : SReach L p → op.pre p → op.run p = .throw e p' → SReach L p'

inductive SReachF (L : Nat) : Pool → Prop
  | init : SReachF L (Pool.init L)
  | ok {p p' : Pool} {op : SOp} : SReachF L p → op.pre p → op.run p = .ok () p' → SReachF L p'
  | thrown {p p' : Pool} {op : SOp} {e : Exc} : SReachF L p → op.pre p → op.run p = .throw e p' → SReachF L p'
  | arm {p : Pool} (f : Option Nat) : SReachF L p → SReachF L { p with failAt := f }

theorem tempsDead_init (L : Nat) : TempsDead (Pool.init L) := fun _ _ => rfl

theorem sop_keeps {p : Pool} (hI : Inv p) (hT : TempsDead p) (op : SOp) (hpre : op.pre p) :
    Succ p (op.run p).pool (· ∈ op.targets) ∧ TempsDead (op.run p).pool := by
  rcases sop_fault_spec hI hT op hpre with ⟨p', h1, s1, t1⟩ | ⟨e, p', h1, _, s1, t1⟩ | ⟨p', h1, _, s1, t1, _⟩
  · rw [h1]; exact ⟨s1, t1⟩
  · rw [h1]; exact ⟨s1.mono fun _ h => h.elim, t1⟩
  · rw [h1]; exact ⟨s1, t1⟩

theorem sreach_inv {L : Nat} (hL : 0 < L) {p : Pool} (h : SReach L p) : Inv p ∧ TempsDead p ∧ p.failAt = none := by
  induction h with
  | init => exact ⟨inv_init L hL, tempsDead_init L, rfl⟩
  | ok _ hpre hrun ih | thrown _ hpre hrun ih =>
    have k := sop_keeps ih.1 ih.2.1 _ hpre
    rw [hrun] at k
    exact ⟨k.1.inv, k.2, k.1.failAt.trans ih.2.2⟩

theorem SReach.succ_of_ok {L : Nat} (hL : 0 < L) {p p' : Pool} (hr : SReach L p) {op : SOp} (hpre : op.pre p)
    (h : op.run p = .ok () p') : Succ p p' (· ∈ op.targets) := by
  have k := (sop_keeps (sreach_inv hL hr).1 (sreach_inv hL hr).2.1 op hpre).1
  rw [h] at k
  exact k

theorem sreachF_inv {L : Nat} (hL : 0 < L) {p : Pool} (h : SReachF L p) : Inv p ∧ TempsDead p := by
  induction h with
  | init => exact ⟨inv_init L hL, tempsDead_init L⟩
  | ok _ hpre hrun ih | thrown _ hpre hrun ih =>
    have k := sop_keeps ih.1 ih.2 _ hpre
    rw [hrun] at k
    exact ⟨k.1.inv, k.2⟩
  | arm f _ ih => exact ⟨ih.1.setFailAt f, ih.2⟩

theorem SReach.toF {L : Nat} {p : Pool} (h : SReach L p) : SReachF L p := by
  induction h with
  | init => exact .init
  | ok _ hpre hrun ih => exact .ok ih hpre hrun
  | thrown _ hpre hrun ih => exact .thrown ih hpre hrun

end StVerif.StrPool

namespace StVerif.Props.C18
open StVerif.Pool StVerif.StrPool

theorem throws_iff_effect {L : Nat} (hL : 0 < L) {p : Pool} (hr : SReach L p) (op : SOp) (hpre : op.pre p) (e : Exc) :
    (∃ p', op.run p = .throw e p') ↔ Sched.effect (view p) op = .error e := by
  obtain ⟨hI, hT, hF⟩ := sreach_inv hL hr
  have h := sop_run_ok hI hF hT op hpre
  generalize Sched.effect (view p) op = x at h ⊢
  cases x with
  | ok us =>
    obtain ⟨p', h1, _⟩ := h
    refine ⟨?_, nofun⟩
    rintro ⟨_, h2⟩
    rw [h1] at h2; cases h2
  | error e' =>
    obtain ⟨p', h1, _⟩ := h
    refine ⟨?_, fun h => ?_⟩
    · rintro ⟨_, h2⟩
      rw [h1] at h2; cases h2; rfl
    · cases h; exact ⟨p', h1⟩

end StVerif.Props.C18
