/-
  C17, when the event list of a format call is chunk-safe.  Field level: every `format_type`
  overload.  Parser level: the literal scanner cuts the format string only at braces and at its
  end, a field ends behind its closing brace, and well-formed text can be cut at any ASCII byte.
  Then the `apply_format` loop.
-/
import StVerif.Lemmas.Sinks
import StVerif.Lemmas.FmtSpec

namespace StVerif.Lemmas.Sinks
open StVerif.Fmt StVerif.Sinks
open StVerif.Spec.Unicode
open StVerif.Lemmas.Utf StVerif.Lemmas.Utf8Split StVerif.Lemmas.Fmt

theorem valid_tail_ascii (c : Nat) (r : List Nat) (h : Valid (c :: r)) (hc : c < 0x80) : Valid r := by
  cases h with
  | c1 _ _ _ hr => exact hr
  | c2 _ _ _ hl _ _ => exact absurd hc hl.1
  | c3 _ _ _ _ hl _ _ _ => exact absurd hc hl.1
  | c4 _ _ _ _ _ hl _ _ _ _ => exact absurd hc hl.1

theorem chunkSafe_reverse (l : List Event) : chunkSafe l.reverse = chunkSafe l := List.all_reverse

theorem digitChar_ascii (d : Nat) (u : Bool) (h : d < 36) : digitChar d u < 0x80 := by
  rw [digitChar_eq_sym, Spec.Render.digitSym]
  split
  · omega
  · split <;> omega

theorem uintLoop_ascii (r : Nat) (u : Bool) (hr : r ≤ 36) (v : Nat) (acc : List Nat) (ha : Ascii acc) : Ascii (uintLoop r u v acc) := by
  fun_induction uintLoop r u v acc with
  -- nothing left to print: the accumulator is the result
  | case1 v acc _ => exact ha
  -- `v ≠ 0` and `r ≥ 2`: the digit `v % r` goes in front of the accumulator
  | case2 v acc hmore ih =>
    apply ih
    intro b hb
    rcases List.mem_cons.mp hb with rfl | hb
    · exact digitChar_ascii _ u (Nat.lt_of_lt_of_le (Nat.mod_lt v (by omega)) hr)
    · exact ha b hb

theorem uintFormat_ascii (v r : Nat) (u : Bool) (hr : r ≤ 36) : Ascii (uintFormat v r u) := by
  unfold uintFormat
  split
  · intro b hb; rw [List.mem_singleton.mp hb]; decide
  · exact uintLoop_ascii r u hr v [] nofun

theorem radixOf_le {c : DigitClass} {r : Nat} {u : Bool} (h : Fmt.radixOf c = some (r, u)) : r ≤ 36 := by
  cases c <;> cases h <;> decide

theorem numericPrefix_safe (f : FormatSpec) (nt : NumType) : chunkSafe (numericPrefix f nt) = true := by
  unfold numericPrefix
  rw [chunkSafe_append, Bool.and_eq_true]
  constructor
  · split
    · rfl
    · split <;> rfl
  · split
    · cases f.digitClass <;> rfl
    · rfl

theorem formatNumericString_safe (f : FormatSpec) (hp : padOf f < 0x80) (text : List Nat) (ht : Ascii text) (nt : NumType) :
    chunkSafe (formatNumericString f text nt) = true := by
  have htx := chunkOk_append_valid text (valid_of_ascii text ht)
  have hpad := fun n => chunkOk_char_ascii (padOf f) n hp
  simp only [formatNumericString, apply_ite chunkSafe, chunkSafe_append, chunkSafe_cons, chunkSafe_nil, numericPrefix_safe,
    htx, hpad, Bool.and_self, ite_self]

theorem formatNumericS_safe (f : FormatSpec) (hp : padOf f < 0x80) (v : Int) (ev : List Event) (h : formatNumericS f v = .ok ev) :
    chunkSafe ev = true := by
  unfold formatNumericS at h
  split at h
  · cases h
  · rename_i r u hr
    cases h
    exact formatNumericString_safe f hp _ (uintFormat_ascii _ r u (radixOf_le hr)) _

theorem encUtf8_valid (c : Nat) (hc : c < 0x200000) : Valid (encUtf8 c) := by
  have := Valid.seq (seq8_enc hc) .nil
  rwa [List.append_nil] at this

theorem formatChar_safe (f : FormatSpec) (ch : Int) (ev : List Event) (h : formatChar f ch = .ok ev) : chunkSafe ev = true := by
  replace h := Outcome.of_ite_assert h
  by_cases hle : wrapW 32 ch ≤ 0x10FFFF
  · rw [writeUtf8_eq _ hle] at h
    cases h
    rw [chunkSafe_cons, chunkOk_append_valid _ (encUtf8_valid _ (Nat.lt_of_le_of_lt hle (by decide)))]; rfl
  · rw [writeUtf8_none _ (Nat.lt_of_not_le hle)] at h
    cases h; rfl

/-- the length `format_string` cuts the text to -/
def cutSize (f : FormatSpec) (n : Nat) : Nat :=
  if f.precision ≥ 0 ∧ n > wrap64 f.precision then wrap64 f.precision else n

theorem formatString_safe (f : FormatSpec) (hp : padOf f < 0x80) (text : List Nat)
    (hv : Valid (text.take (cutSize f text.length))) : chunkSafe (formatString f text) = true := by
  have htx := chunkOk_append_valid _ hv
  have hpad := fun n => chunkOk_char_ascii (padOf f) n hp
  unfold cutSize at htx
  simp only [formatString, apply_ite chunkSafe, chunkSafe_cons, chunkSafe_nil, htx, hpad, Bool.and_self, ite_self]

theorem formatFloat_safe (f : FormatSpec) (hp : padOf f < 0x80) (r : Bool → Option Nat → FloatClass → List Nat)
    (hr : ∀ plus prec cls, Ascii (r plus prec cls)) (ev : List Event) (h : formatFloat f r = .ok ev) : chunkSafe ev = true := by
  have htx := chunkOk_append_valid _ (valid_of_ascii _
    (hr f.alwaysSigned (if f.precision ≥ 0 then some f.precision.toNat else none) f.floatClass))
  have hpad := fun n => chunkOk_char_ascii (padOf f) n hp
  -- behind the size assertion every branch returns a value: `.ok` of a conditional event list
  simp only [formatFloat, ← apply_ite Outcome.ok] at h
  cases Outcome.of_ite_assert h
  simp only [apply_ite chunkSafe, chunkSafe_cons, chunkSafe_nil, htx, hpad, Bool.and_self, ite_self]

/-- what an argument has to satisfy under a field spec for its events to be chunk-safe: text cut
    by the precision ends at a character boundary, a `char8_t` printed as a character is ASCII,
    libc's floating-point text is ASCII; integers, characters and booleans always qualify -/
def ArgSafe (f : FormatSpec) : Arg → Prop
  | .str bs => Valid (bs.take (cutSize f bs.length))
  | .char8 v => f.digitClass = .chr → v < 0x80
  | .float r => ∀ plus prec cls, Ascii (r plus prec cls)
  | .wide src m us => ∀ bs, Utf.stringFrom src m (some us) = .ok bs → Valid (bs.take (cutSize f bs.length))
  | _ => True

theorem formatType_safe (a : Arg) (f : FormatSpec) (hp : padOf f < 0x80) (ha : ArgSafe f a) (ev : List Event)
    (h : formatType a f = .ok ev) : chunkSafe ev = true := by
  -- the integer and character kinds: one UTF-8 sequence under the class `c`, an ASCII numeral otherwise
  have int : ∀ (ch v : Int) (num : Outcome (List Event)), (f.digitClass ≠ .chr → num = formatNumericS f v) →
      (if f.digitClass = .chr then formatChar f ch else num) = .ok ev → chunkSafe ev = true := by
    intro ch v num hnum h
    split at h
    · exact formatChar_safe f ch ev h
    · rw [hnum ‹_›] at h; exact formatNumericS_safe f hp v ev h
  have hu := fun (v : Nat) hc => formatNumericU_eq_S f hc v
  cases a with
  | sint w v => exact int _ v _ (fun _ => rfl) h
  | uint w v => exact int _ v _ (hu v) h
  | char v => exact int _ v _ (fun _ => rfl) h
  | wchar v => exact int _ v _ (fun _ => rfl) h
  | char16 v => exact int _ v _ (hu v) h
  | char32 v => exact int _ v _ (hu v) h
  | char8 v =>
    by_cases hc : f.digitClass = .chr
    · simp only [formatType, if_pos hc] at h
      cases Outcome.of_ite_assert h
      rw [chunkSafe_cons, chunkOk_char_ascii v 1 (ha hc)]; rfl
    · simp only [formatType, if_neg hc, hu v hc] at h
      exact formatNumericS_safe f hp v ev h
  | bool b =>
    cases h
    exact formatString_safe f hp _ (valid_of_ascii _ fun x hx =>
      (show Ascii _ by cases b <;> (unfold Ascii; decide)) x (List.mem_of_mem_take hx))
  | str bs => cases h; exact formatString_safe f hp bs ha
  | nullStr => cases h; rfl
  | wide src m us =>
    obtain ⟨bs, hc, h⟩ := Outcome.bind_eq_ok.mp h
    cases h
    exact formatString_safe f hp bs (ha bs hc)
  | float r => exact formatFloat_safe f hp r ha ev h

theorem valid_cut_at {fmt : List Nat} {m nx c : Nat} (hv : Valid (fmt.drop m)) (hm : m ≤ nx) (hr : rd fmt nx = some c)
    (hc : c < 0x80) : Valid (slice fmt m nx) ∧ Valid (fmt.drop nx) ∧ (c ≠ 0 → Valid (fmt.drop (nx + 1))) := by
  have hnx := Nat.add_sub_of_le hm
  have h := valid_cut (fmt.drop m) hv (nx - m) fun b hb hcont => by
    rw [List.getElem?_drop, hnx, ← List.head?_drop] at hb
    rw [rd_of_head? hb] at hr
    cases hr
    exact absurd (cont_ge _ hcont) (Nat.not_le.mpr hc)
  rw [List.drop_drop, hnx] at h
  exact ⟨h.1, h.2, fun hc0 => valid_tail_ascii c _ ((drop_of_rd hr hc0).2 ▸ h.2) hc⟩

theorem nextFormat_safe (fmt : List Nat) (pos : Nat) (hp : pos ≤ fmt.length) (hv : Valid (fmt.drop pos))
    (ev : List Event) (p : Nat) (more : Bool) (h : nextFormat fmt pos = .ok (ev, p, more)) :
    chunkSafe ev = true ∧ Valid (fmt.drop p) := by
  -- invariant: the pending run starts at a character boundary and everything emitted is chunk-safe
  have hinv : ScanInv fmt fun s => s.m ≤ s.next ∧ Valid (fmt.drop s.m) ∧ chunkSafe s.out = true := by
    constructor
    · rintro s c ⟨hm, hvm, ho⟩ hc h12 -
      have hcut := valid_cut_at hvm hm hc (by rcases h12 with rfl | rfl <;> decide)
      refine ⟨Nat.le_succ _, hcut.2.2 (by rcases h12 with rfl | rfl <;> decide), ?_⟩
      rw [pushed, chunkSafe_cons, ho, chunkOk_append_valid _ hcut.1]; rfl
    · rintro s c ⟨hm, hvm, ho⟩ - - - -
      exact ⟨Nat.le_succ_of_le hm, hvm, ho⟩
  obtain ⟨s, ⟨hm, hvm, ho⟩, _, _, hev, hps, hbrace, hend⟩ := (nextFormat_inv hinv pos hp ⟨Nat.le_refl _, hv, rfl⟩).of_ok h
  simp only at hev hps hbrace hend
  obtain ⟨c, hc, hc80⟩ : ∃ c, rd fmt s.next = some c ∧ c < 0x80 := by
    cases more with
    | true => exact ⟨123, (hbrace rfl).1, by decide⟩
    | false => exact ⟨0, hend rfl, by decide⟩
  have hcut := valid_cut_at hvm hm hc hc80
  rw [hev, hps, flushed, chunkSafe_reverse]
  refine ⟨?_, hcut.2.1⟩
  split
  · rw [chunkSafe_cons, ho, chunkOk_append_valid _ hcut.1]; rfl
  · exact ho

/-- every field the parser can produce from this format string, applied to any argument in
    range, yields chunk-safe events -/
def FieldsSafe (fmt : List Nat) (n : Nat) (fs : Formatters) : Prop :=
  ∀ p spec p', parseFormat fmt p = .ok (spec, p') → ∀ id, id < n → ∀ ev, fs id spec = .ok ev → chunkSafe ev = true

theorem applyLoop_safe (fmt : List Nat) (n : Nat) (fs : Formatters) (hfs : FieldsSafe fmt n fs) (pos index : Nat)
    (hp : pos ≤ fmt.length) (hv : Valid (fmt.drop pos)) (ev : List Event)
    (h : applyLoop fmt n fs pos index = .ok ev) : chunkSafe ev = true := by
  induction pos using forward_induction fmt.length generalizing index ev with
  | step pos ih =>
    rw [applyLoop_eq _ _ _ _ _ hp] at h
    obtain ⟨⟨ev0, p, more⟩, hnf, h⟩ := Outcome.bind_eq_ok.mp h
    obtain ⟨hs0, hvp⟩ := nextFormat_safe fmt pos hp hv ev0 p more hnf
    obtain ⟨hpp, _, hc⟩ := (nextFormat_sat fmt pos hp).of_ok hnf
    cases more with
    | false => cases h; exact hs0
    | true =>
      obtain ⟨⟨spec, p'⟩, hpf, h⟩ := Outcome.bind_eq_ok.mp h
      obtain ⟨hq1, hq2, h125, _⟩ := (parseFormat_spec fmt p (hc rfl).1 (hc rfl).2).of_ok hpf
      simp only at hpp hq1 hq2 h125 h
      split at h
      · cases h
      · obtain ⟨ev1, hfe, h⟩ := Outcome.bind_eq_ok.mp h
        obtain ⟨rest, hrest, h⟩ := Outcome.bind_eq_ok.mp h
        cases h
        have h1 := hfs p spec p' hpf _ (Nat.lt_of_not_ge ‹_›) ev1 hfe
        -- the field ends behind its closing brace, an ASCII byte: a character boundary again
        have hvp' := (valid_cut_at hvp (Nat.le_sub_one_of_lt hq1) h125 (by decide)).2.2 (by decide)
        rw [Nat.sub_add_cancel (Nat.one_le_of_lt hq1)] at hvp'
        have h2 := ih p' (Nat.lt_of_le_of_lt hpp hq1) hq2 _ hq2 hvp' rest hrest
        rw [chunkSafe_append, chunkSafe_append, hs0, h1, h2]; rfl

theorem applyFormat_safe (fmt : List Nat) (n : Nat) (fs : Formatters) (hfs : FieldsSafe fmt n fs) (hv : Valid fmt)
    (ev : List Event) (h : applyFormat fmt n fs = .ok ev) : chunkSafe ev = true := by
  cases n with
  | zero =>
    obtain ⟨⟨ev0, p, more⟩, hnf, h⟩ := Outcome.bind_eq_ok.mp h
    have := nextFormat_safe fmt 0 (Nat.zero_le _) hv ev0 p more hnf
    cases more with
    | true => cases h
    | false => cases h; exact this.1
  | succ k => exact applyLoop_safe fmt _ fs hfs 0 0 (Nat.zero_le _) hv ev h

end StVerif.Lemmas.Sinks
