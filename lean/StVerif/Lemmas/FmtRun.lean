/-
  C11, the scanner and the whole call.  On a format string without an embedded NUL `next_format` computes the
  Spec's `splitLiteral`; then the `apply_format` loop of the model equals the Spec's `renderFrom` (literal text,
  field grammar, argument selection, field rendering, repeat).
-/
import StVerif.Lemmas.FmtParse
import StVerif.Lemmas.FmtSpec

namespace StVerif.Lemmas.Fmt
open StVerif.Fmt
open StVerif.Spec

theorem splitLiteral_double {c : Nat} (h : c = 123 ∨ c = 125) (rest : List Nat) :
    Render.splitLiteral (c :: c :: rest) = (c :: (Render.splitLiteral rest).1, (Render.splitLiteral rest).2) := by
  rcases h with rfl | rfl <;> rw [Render.splitLiteral]

theorem splitLiteral_open1 (rest : List Nat) (h : rest.head? ≠ some 123) :
    Render.splitLiteral (123 :: rest) = ([], 123 :: rest) := by
  cases rest with
  | nil => rw [Render.splitLiteral]; simp
  | cons c r =>
    have : c ≠ 123 := by simpa using h
    rw [Render.splitLiteral]
    intro r' heq; injection heq with h3 _; exact this h3

theorem splitLiteral_lit (c : Nat) (rest : List Nat) (h123 : c ≠ 123) (h125 : c = 125 → rest.head? ≠ some 125) :
    Render.splitLiteral (c :: rest) = (c :: (Render.splitLiteral rest).1, (Render.splitLiteral rest).2) := by
  rw [Render.splitLiteral]
  · intro r hc; exact absurd hc h123
  · intro r hc hr; rw [hr] at h125; exact h125 hc rfl
  · exact h123

theorem slice_self (fmt : List Nat) (a : Nat) : slice fmt a a = [] := by simp [slice]

theorem slice_succ {fmt : List Nat} {a b c : Nat} (hab : a ≤ b) (hc : rd fmt b = some c) (h0 : c ≠ 0) :
    slice fmt a (b + 1) = slice fmt a b ++ [c] := by
  obtain ⟨hb, hd⟩ := drop_of_rd hc h0
  have : (fmt.drop a)[b - a]? = some c := by
    rw [List.getElem?_drop, Nat.add_sub_cancel' hab, ← List.head?_drop, hd]; rfl
  rw [slice, Nat.succ_sub hab, List.take_add_one, this]; rfl

/-- what the scanner has produced so far: the events already emitted plus the pending run
    `[m_format_str, next)` that the next `append` will copy -/
def pending (fmt : List Nat) (s : FState) : List Nat := flatten s.out.reverse ++ slice fmt s.m s.next

theorem flatten_flushed (fmt : List Nat) (s : FState) : flatten (flushed fmt s) = pending fmt s := by
  unfold flushed pending
  split
  · simp [Event.bytes]
  · rw [show s.next = s.m from Decidable.of_not_not ‹_›, slice_self, List.append_nil]

theorem nextFormat_spec (fmt : List Nat) (hz : NoNul fmt) (pos : Nat) (h : pos ≤ fmt.length) :
    Sat (fun r => flatten r.1 = (Render.splitLiteral (fmt.drop pos)).1 ∧ fmt.drop r.2.1 = (Render.splitLiteral (fmt.drop pos)).2 ∧
        (r.2.2 = true → rd fmt r.2.1 = some 123) ∧ (r.2.2 = false → fmt.drop r.2.1 = []))
      (fun _ => False) (fun _ => False) (nextFormat fmt pos) := by
  -- invariant: what was produced, followed by what the splitter makes of the rest, is its answer
  have hinv : ScanInv fmt fun s => s.m ≤ s.next ∧
      (pending fmt s ++ (Render.splitLiteral (fmt.drop s.next)).1, (Render.splitLiteral (fmt.drop s.next)).2) =
        Render.splitLiteral (fmt.drop pos) := by
    constructor
    · rintro s c ⟨hm, hI⟩ hc h12 hc1
      have h0 : c ≠ 0 := by rcases h12 with rfl | rfl <;> decide
      refine ⟨Nat.le_succ _, ?_⟩
      rw [← hI, (drop_of_rd hc h0).2, (drop_of_rd hc1 h0).2]
      have hp : pending fmt (pushed fmt s) = pending fmt s ++ [c] := by
        simp only [pending, pushed, List.reverse_cons, flatten_append, flatten_cons, flatten_nil, Event.bytes, List.append_nil,
          slice_succ (Nat.le_refl _) hc1 h0, slice_self, List.nil_append, List.append_assoc]
      rw [splitLiteral_double h12, hp, List.append_assoc]; rfl
    · rintro s c ⟨hm, hI⟩ hc h0 h123 h125
      refine ⟨Nat.le_succ_of_le hm, ?_⟩
      rw [← hI, (drop_of_rd hc h0).2, splitLiteral_lit c _ h123 fun h hh => h125 h (rd_of_head? hh)]
      simp only [pending, slice_succ hm hc h0, List.append_assoc, List.cons_append, List.nil_append]
  refine (nextFormat_inv hinv pos h ⟨Nat.le_refl _, by simp [pending, slice_self]⟩).mono ?_ (fun _ => id) (fun _ => id)
  rintro ⟨ev, p, more⟩ ⟨s, ⟨hm, hI⟩, -, -, hev, rfl, hmore, hend⟩
  simp only at hev hmore hend
  have hstop : Render.splitLiteral (fmt.drop s.next) = ([], fmt.drop s.next) := by
    cases more with
    | false => rw [drop_of_rd_zero hz (hend rfl)]; rfl
    | true =>
      obtain ⟨hc, hc1⟩ := hmore rfl
      rw [(drop_of_rd hc (by decide)).2]
      exact splitLiteral_open1 _ fun hh => hc1 (rd_of_head? hh)
  rw [hstop, List.append_nil] at hI
  rw [hev, flatten_flushed, ← hI]
  exact ⟨rfl, rfl, fun hm => (hmore hm).1, fun hm => drop_of_rd_zero hz (hend hm)⟩

theorem renderFrom_unfold (s : List Nat) (args : List Arg) (seq : Nat) :
    Render.renderFrom s args seq =
      match (Render.splitLiteral s).2 with
      | [] => .ok (Render.splitLiteral s).1
      | _ :: body =>
        match Render.parseItems body {} with
        | none => .throw .badFormat
        | some (f, rest) =>
          match Render.select f seq args with
          | (none, _) => .throw .outOfRange
          | (some a, seq') =>
            (Render.renderField f a).bind fun bs =>
              (Render.renderFrom rest args seq').bind fun tail => .ok ((Render.splitLiteral s).1 ++ bs ++ tail) := by
  rw [Render.renderFrom.eq_def]
  split
  · rename_i lit hsl; simp [hsl]
  · rename_i lit c body hsl
    simp only [hsl]
    split
    · rename_i hp; simp [hp]
    · rename_i f rest hp
      simp only [hp]
      rfl

theorem flag_specInt {c : Nat} {f f' : FormatSpec} (hf : SpecInt f) (h : Render.flag c f = some f') : SpecInt f' := by
  -- a flag leaves the three `int` fields alone: `SpecInt` of what it returns unfolds to `SpecInt f`
  have : (Render.flag c f).map SpecInt = (Render.flag c f).map fun _ => SpecInt f := by
    unfold Render.flag
    simp only [apply_ite (Option.map _), Option.map_some, Option.map_none]
    rfl
  rw [h] at this
  exact (Option.some.inj this).mpr hf

/-- every numeral goes through `static_cast<int>` -/
theorem parseItems_specInt {s : List Nat} {f f' : FormatSpec} {r : List Nat} (hf : SpecInt f)
    (h : Render.parseItems s f = some (f', r)) : SpecInt f' := by
  fun_induction Render.parseItems s f with
  -- the text ends inside the field
  | case1 f => cases h
  -- `}`: the field is complete
  | case2 f rest => cases h; exact hf
  -- `_` with nothing after it
  | case3 f => cases h
  -- `_p`: the pad character
  | case4 f p rest _ ih => exact ih hf h
  -- a digit `1`…`9`: the minimum length
  | case5 f c rest _ _ _ r ih => exact ih (hf.width _) h
  -- `.` with nothing after it
  | case6 f => cases h
  -- `.`: the precision
  | case7 f rest _ r _ _ _ ih => exact ih (hf.prec _) h
  -- `&` with nothing after it
  | case8 f => cases h
  -- `&`: the argument index
  | case9 f rest _ r _ _ _ _ ih => exact ih (hf.arg _) h
  -- any other character, accepted by `flag`
  | case10 f c rest _ _ _ _ _ f'' hflag ih => exact ih (flag_specInt hf hflag) h
  -- any other character, rejected by `flag`
  | case11 f c rest _ _ _ _ _ _ => cases h

/-- `&0` wraps to `SIZE_MAX`, which no argument list reaches -/
theorem select_eq (f : FormatSpec) (hf : SpecInt f) (index : Nat) (args : List Arg) (hn : args.length < 2 ^ 64) :
    Render.select f index args = (args[(formatterId f index).1]?, (formatterId f index).2) := by
  obtain ⟨-, -, h1, h2⟩ := hf
  unfold Render.select formatterId
  by_cases h0 : f.argIndex ≥ 0
  · rw [if_pos h0, if_pos h0]
    by_cases hp : f.argIndex ≥ 1
    · rw [if_pos hp, wrap64_of_nonneg (by omega) (by omega)]
    · rw [if_neg hp, wrap64_of_neg (by omega) (by omega), List.getElem?_eq_none (by omega)]
  · rw [if_neg h0, if_neg h0]

structure ArgsOk (args : List Arg) : Prop where
  inRange : ∀ a ∈ args, a.InRange
  libcRenders : ∀ a ∈ args, a.LibcRenders
  count : args.length < 2 ^ 64

theorem applyLoop_eq_spec (fmt : List Nat) (hz : NoNul fmt) (args : List Arg) (ha : ArgsOk args) (pos index : Nat)
    (h : pos ≤ fmt.length) :
    (applyLoop fmt args.length (formattersOf args) pos index).map flatten = Render.renderFrom (fmt.drop pos) args index := by
  induction pos using forward_induction fmt.length generalizing index with
  | step pos ih =>
    obtain ⟨⟨ev, p, more⟩, hnf, h1, h2, hc, hend⟩ := (nextFormat_spec fmt hz pos h).exists_ok
    obtain ⟨hpp, _, hp⟩ := (nextFormat_sat fmt pos h).of_ok hnf
    simp only at h1 h2 hc hend hpp hp
    rw [applyLoop_eq _ _ _ _ _ h, hnf, Outcome.ok_bind, renderFrom_unfold, ← h2]
    cases more with
    | false => rw [hend rfl]; simp [Outcome.map, h1]
    | true =>
      rw [(drop_of_rd (hc rfl) (by decide)).2]
      have hpf := parseFormat_spec fmt p (hp rfl).1 (hc rfl)
      dsimp only
      cases hpe : parseFormat fmt p with
      | ok r =>
        obtain ⟨f, p'⟩ := r
        obtain ⟨hq1, hq2, _, hpi⟩ := hpf.of_ok hpe
        have hfi : SpecInt f := parseItems_specInt (by unfold SpecInt; decide) hpi
        rw [hpi, Outcome.ok_bind]
        simp only [select_eq f hfi index args ha.count]
        by_cases hid : (formatterId f index).1 ≥ args.length
        · rw [List.getElem?_eq_none hid, if_pos hid]; rfl
        · have hlt := Nat.lt_of_not_le hid
          have hget := List.getElem?_eq_getElem hlt
          have hmem := List.getElem_mem hlt
          simp only [hget, if_neg hid, formattersOf_some hget,
            ← formatType_eq_spec _ f (ha.inRange _ hmem) hfi (ha.libcRenders _ hmem)]
          refine Outcome.map_bind_congr fun ev' => ?_
          rw [← ih p' (Nat.lt_of_le_of_lt hpp hq1) hq2 _ hq2]
          refine Outcome.map_bind_congr fun rest => ?_
          simp [Outcome.map, h1]
      | throw e => rw [(hpf.of_throw hpe).1, (hpf.of_throw hpe).2 hz]; rfl
      | _ => rw [hpe] at hpf; exact hpf.elim

end StVerif.Lemmas.Fmt
