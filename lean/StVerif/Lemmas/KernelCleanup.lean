/-
  Bridge for the translated `cleanup_utf8` (include/st_utf_conv_priv.h as written by tools/gen_kernels.py):
  the translated loop, run over a whole source with enough fuel, stores the model's `cleanupUtf8` and returns its
  length; run with a null output pointer (the sizing pass) it stores nothing and returns the same length.  In
  particular neither pass reads outside the source, and the sizing pass returns exactly the number of units the
  filling pass stores.
-/
import StVerif.Lemmas.KernelBridge
open StVerif.Cxx StVerif.Generated StVerif.Utf

namespace StVerif.KernelBridge

theorem cleanupUtf8_nil : cleanupUtf8 [] = [] := rfl

theorem cleanup_append_chars1_false : Kernels.cleanup_utf8_append_chars1 false 0 = .ok (3, [239, 191, 189]) := rfl
theorem cleanup_append_chars1_true : Kernels.cleanup_utf8_append_chars1 true 0 = .ok (3, []) := rfl

/-- the clones of `append_chars`: the count, and the units copied unless the output pointer is null -/
theorem cleanup_append_chars1_eq (nul : Bool) :
    Kernels.cleanup_utf8_append_chars1 nul 0
      = .ok (badcharSubstituteUtf8.length, if nul then [] else badcharSubstituteUtf8) := by
  cases nul <;> rfl

theorem cleanup_append_chars2_eq {mem : List Nat} {p b0 b1 : Nat} (nul : Bool) (r0 : rd mem p = .ok b0)
    (r1 : rd mem (p + 1) = .ok b1) :
    Kernels.cleanup_utf8_append_chars2 mem nul p = .ok (2, if nul then [] else [b0, b1]) := by
  cases nul <;> simp only [Kernels.cleanup_utf8_append_chars2, rd8, r0, r1, ok_bind] <;> rfl

theorem cleanup_append_chars3_eq {mem : List Nat} {p b0 b1 b2 : Nat} (nul : Bool) (r0 : rd mem p = .ok b0)
    (r1 : rd mem (p + 1) = .ok b1) (r2 : rd mem (p + 2) = .ok b2) :
    Kernels.cleanup_utf8_append_chars3 mem nul p = .ok (3, if nul then [] else [b0, b1, b2]) := by
  cases nul <;> simp only [Kernels.cleanup_utf8_append_chars3, rd8, r0, r1, r2, ok_bind] <;> rfl

theorem cleanup_append_chars4_eq {mem : List Nat} {p b0 b1 b2 b3 : Nat} (nul : Bool) (r0 : rd mem p = .ok b0)
    (r1 : rd mem (p + 1) = .ok b1) (r2 : rd mem (p + 2) = .ok b2) (r3 : rd mem (p + 3) = .ok b3) :
    Kernels.cleanup_utf8_append_chars4 mem nul p = .ok (4, if nul then [] else [b0, b1, b2, b3]) := by
  cases nul <;> simp only [Kernels.cleanup_utf8_append_chars4, rd8, r0, r1, r2, r3, ok_bind] <;> rfl

/-- One iteration of the translated loop of `cleanup_utf8`: `us` is the cleaned form of the `w` units consumed (the
    sequence kept, or the substitute).  The count stays as the C++ computes it, modulo 2^64: that it does not wrap is
    argued once, in `cleanup_utf8_loop_eq`, from `us.length ≤ 3 * w`.  The proof follows the function like
    `extract_utf8_spec`. -/
theorem cleanup_utf8_iter (mem : List Nat) (nul : Bool) (n acc p : Nat) (out : List Nat) (hp : p < mem.length) :
    ∃ w, 0 < w ∧ p + w ≤ mem.length ∧ ∃ us, us.length ≤ 3 * w ∧
      cleanupUtf8 (mem.drop p) = us ++ cleanupUtf8 (mem.drop (p + w)) ∧
      Kernels.cleanup_utf8_loop1 mem 0 mem.length mem.length nul (n + 1) acc p out
        = Kernels.cleanup_utf8_loop1 mem 0 mem.length mem.length nul n ((acc + us.length) % 18446744073709551616) (p + w)
            (out ++ if nul then [] else us) := by
  obtain ⟨b0, r0, d0⟩ := rd_lt mem p hp
  rw [d0, cleanupUtf8.eq_def (b0 :: _), Kernels.cleanup_utf8_loop1]
  simp only [hp, ↓reduceIte, rd8, r0, ok_bind, cleanup_append_chars1_eq]
  by_cases c1 : b0 < 128
  · refine ⟨1, Nat.one_pos, hp, [b0], Nat.le_of_ble_eq_true rfl, ?_⟩
    cases nul <;> simp [c1]
  by_cases c2 : b0 &&& 224 = 192
  · simp only [c1, c2, ↓reduceIte]
    by_cases s : p + 2 > mem.length
    · refine ⟨1, Nat.one_pos, hp, badcharSubstituteUtf8, Nat.le_of_ble_eq_true rfl, ?_⟩
      simp [s, List.drop_eq_nil_of_le (Nat.le_of_lt_succ s)]
    obtain ⟨b1, r1, d1⟩ := rd_lt mem (p + 1) (Nat.le_of_not_gt s)
    simp only [s, ↓reduceIte, r1, ok_bind, d1, cleanup_append_chars2_eq nul r0 r1]
    by_cases k : b1 &&& 192 = 128
    · refine ⟨2, by decide, Nat.le_of_not_gt s, [b0, b1], Nat.le_of_ble_eq_true rfl, ?_⟩
      simp [k]
    · refine ⟨1, Nat.one_pos, hp, badcharSubstituteUtf8, Nat.le_of_ble_eq_true rfl, ?_⟩
      simp [k, d1]
  by_cases c3 : b0 &&& 240 = 224
  · simp only [c1, c2, c3, ↓reduceIte]
    by_cases s : p + 3 > mem.length
    · refine ⟨1, Nat.one_pos, hp, badcharSubstituteUtf8, Nat.le_of_ble_eq_true rfl, ?_⟩
      simp only [s, ↓reduceIte]
      split
      -- the pattern `b1 :: b2 :: r` would put a unit at `p + 2`, past the end: drop one unit more on both sides of `h`
      · next h =>
        cases (congrArg (List.drop 1) h).symm.trans (List.drop_drop.trans (List.drop_eq_nil_of_le (Nat.le_of_lt_succ s)))
      · simp
    have l := Nat.le_of_not_gt s
    obtain ⟨b1, r1, d1⟩ := rd_lt mem (p + 1) (Nat.lt_of_succ_lt l)
    obtain ⟨b2, r2, d2⟩ := rd_lt mem (p + 2) l
    simp only [s, ↓reduceIte, r1, r2, ok_bind, d1, d2, cleanup_append_chars3_eq nul r0 r1 r2, ite_cascade_or]
    by_cases k : b1 &&& 192 ≠ 128 ∨ b2 &&& 192 ≠ 128
    · refine ⟨1, Nat.one_pos, hp, badcharSubstituteUtf8, Nat.le_of_ble_eq_true rfl, ?_⟩
      simp [k, d1, d2]
    · refine ⟨3, by decide, l, [b0, b1, b2], Nat.le_of_ble_eq_true rfl, ?_⟩
      simp [k]
  by_cases c4 : b0 &&& 248 = 240
  · simp only [c1, c2, c3, c4, ↓reduceIte]
    by_cases s : p + 4 > mem.length
    · refine ⟨1, Nat.one_pos, hp, badcharSubstituteUtf8, Nat.le_of_ble_eq_true rfl, ?_⟩
      simp only [s, ↓reduceIte]
      split
      · next h =>
        cases (congrArg (List.drop 2) h).symm.trans (List.drop_drop.trans (List.drop_eq_nil_of_le (Nat.le_of_lt_succ s)))
      · simp
    have l := Nat.le_of_not_gt s
    obtain ⟨b1, r1, d1⟩ := rd_lt mem (p + 1) (by omega)
    obtain ⟨b2, r2, d2⟩ := rd_lt mem (p + 2) (Nat.lt_of_succ_lt l)
    obtain ⟨b3, r3, d3⟩ := rd_lt mem (p + 3) l
    simp only [s, ↓reduceIte, r1, r2, r3, ok_bind, d1, d2, d3, cleanup_append_chars4_eq nul r0 r1 r2 r3, ite_cascade_or]
    by_cases k : b1 &&& 192 ≠ 128 ∨ b2 &&& 192 ≠ 128 ∨ b3 &&& 192 ≠ 128
    · refine ⟨1, Nat.one_pos, hp, badcharSubstituteUtf8, Nat.le_of_ble_eq_true rfl, ?_⟩
      simp [k, d1, d2, d3]
    · refine ⟨4, by decide, l, [b0, b1, b2, b3], Nat.le_of_ble_eq_true rfl, ?_⟩
      simp [k]
  · refine ⟨1, Nat.one_pos, hp, badcharSubstituteUtf8, Nat.le_of_ble_eq_true rfl, ?_⟩
    simp [c1, c2, c3, c4]

theorem cleanup_utf8_loop_eq (mem : List Nat) (nul : Bool) (hl : 3 * mem.length < 2 ^ 64) :
    ∀ fuel p acc out, p ≤ mem.length → mem.length < fuel + p → acc ≤ 3 * p →
      Kernels.cleanup_utf8_loop1 mem 0 mem.length mem.length nul fuel acc p out
        = .ok (acc + (cleanupUtf8 (mem.drop p)).length, out ++ if nul then [] else cleanupUtf8 (mem.drop p)) := by
  intro fuel
  induction fuel with
  | zero => intro p _ _ _ h; omega
  | succ n ih =>
    intro p acc out hp hf hb
    by_cases hlt : p < mem.length
    · obtain ⟨w, h1, h2, us, hu, hd, hk⟩ := cleanup_utf8_iter mem nul n acc p out hlt
      have hb' : acc + us.length ≤ 3 * (p + w) := Nat.mul_add 3 p w ▸ Nat.add_le_add hb hu
      rw [hk, Nat.mod_eq_of_lt (Nat.lt_of_le_of_lt (Nat.le_trans hb' (Nat.mul_le_mul_left 3 h2)) hl),
        ih (p + w) _ _ h2 (by omega) hb', hd]
      cases nul <;> simp [Nat.add_assoc]
    · rw [List.drop_eq_nil_of_le (by omega), Kernels.cleanup_utf8_loop1]
      cases nul <;> simp [hlt, cleanupUtf8_nil]

theorem cleanup_utf8_eq (mem : List Nat) (fuel : Nat) (hf : mem.length < fuel) (hl : 3 * mem.length < 2 ^ 64) :
    Kernels.cleanup_utf8 mem fuel false 0 mem.length = .ok ((cleanupUtf8 mem).length, cleanupUtf8 mem)
    ∧ Kernels.cleanup_utf8 mem fuel true 0 mem.length = .ok ((cleanupUtf8 mem).length, []) := by
  unfold Kernels.cleanup_utf8
  simp only [Nat.zero_add]
  rw [cleanup_utf8_loop_eq mem false hl fuel 0 0 [] (Nat.zero_le _) hf (Nat.zero_le _),
    cleanup_utf8_loop_eq mem true hl fuel 0 0 [] (Nat.zero_le _) hf (Nat.zero_le _), List.drop_zero]
  simp

theorem cleanup_utf8_ok (mem : List Nat) (fuel : Nat) (hf : mem.length < fuel) (hl : 3 * mem.length < 2 ^ 64) (nul : Bool) :
    isOk (Kernels.cleanup_utf8 mem fuel nul 0 mem.length) = true := by
  cases nul
  · rw [(cleanup_utf8_eq mem fuel hf hl).1]; rfl
  · rw [(cleanup_utf8_eq mem fuel hf hl).2]; rfl

/- A tactic for the shape-by-shape form of the loop proof (one call per number of units left in the source).  Not used
   by the proofs above, which go through `cleanup_utf8_iter`; it presupposes the hypothesis names and the helper lemmas
   (`cleanupRes_nil`, `ite_or_cascade`, …) of that form of the proof, which this file does not define. -/
set_option hygiene false in
macro "cleanup_step " sh:term " , " o1:term " , " o2:term " , " o3:term " , " o4:term " , " ob:term : tactic => `(tactic| (
    simp only [List.getElem?_cons_zero, List.getElem?_cons_succ, List.getElem?_nil, List.length_cons, List.length_nil,
      List.drop_succ_cons, List.drop_zero, List.drop_nil, Nat.zero_add] at hlen r0 r1 r2 r3 d1 d2 d3 d4 ⊢
    first | (have c0 : p < mem.length := by omega) | (have c0 : ¬ (p < mem.length) := by omega)
    first | (have c2 : p + 2 > mem.length := by omega) | (have c2 : ¬ (p + 2 > mem.length) := by omega)
    first | (have c3 : p + 3 > mem.length := by omega) | (have c3 : ¬ (p + 3 > mem.length) := by omega)
    first | (have c4 : p + 4 > mem.length := by omega) | (have c4 : ¬ (p + 4 > mem.length) := by omega)
    first | (have m1 : (acc + 1) % 18446744073709551616 = acc + 1 := Nat.mod_eq_of_lt (by omega)) | (have m1 := True.intro)
    first | (have m2 : (acc + 2) % 18446744073709551616 = acc + 2 := Nat.mod_eq_of_lt (by omega)) | (have m2 := True.intro)
    first | (have m3 : (acc + 3) % 18446744073709551616 = acc + 3 := Nat.mod_eq_of_lt (by omega)) | (have m3 := True.intro)
    first | (have m4 : (acc + 4) % 18446744073709551616 = acc + 4 := Nat.mod_eq_of_lt (by omega)) | (have m4 := True.intro)
    first | (have i1 := (ih (p + 1) (acc + 1) $o1 (by omega) (by omega) (by omega)).trans ($sh acc out [b0] _); rw [d1] at i1)
          | (have i1 := True.intro)
    first | (have ib := (ih (p + 1) (acc + 3) $ob (by omega) (by omega) (by omega)).trans ($sh acc out [239, 191, 189] _); rw [d1] at ib)
          | (have ib := True.intro)
    first | (have i2 := (ih (p + 2) (acc + 2) $o2 (by omega) (by omega) (by omega)).trans ($sh acc out [b0, b1] _); rw [d2] at i2)
          | (have i2 := True.intro)
    first | (have i3 := (ih (p + 3) (acc + 3) $o3 (by omega) (by omega) (by omega)).trans ($sh acc out [b0, b1, b2] _); rw [d3] at i3)
          | (have i3 := True.intro)
    first | (have i4 := (ih (p + 4) (acc + 4) $o4 (by omega) (by omega) (by omega)).trans ($sh acc out [b0, b1, b2, b3] _); rw [d4] at i4)
          | (have i4 := True.intro)
    unfold Kernels.cleanup_utf8_loop1
    rw [cleanupUtf8]
    simp only [Kernels.cleanup_utf8_append_chars2, Kernels.cleanup_utf8_append_chars3, Kernels.cleanup_utf8_append_chars4,
      cleanup_append_chars1_false, cleanup_append_chars1_true,
      rd8, r0, r1, r2, r3, e2, e3, e4, ok_bind, error_bind, pure_eq_ok, c0, c2, c3, c4, ↓reduceIte,
      m1, m2, m3, m4, List.nil_append, List.append_nil, Bool.true_eq_false, i1, ib, i2, i3, i4]
    try simp only [cleanupRes_nil, ite_or_cascade, apply_ite (cleanupRes _ acc out), badcharSubstituteUtf8, List.cons_append, List.nil_append]
    try rfl))

end StVerif.KernelBridge
