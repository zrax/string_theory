/-
  List facts that core Lean does not state in the form the regions use: congruence of `all` on the members,
  the `takeWhile` / `dropWhile` prefix lengths, a list with a range replaced (what `overwrite` is in both machines),
  the sum of a bounded function over a list, and `UnitsLt` (with `Bytes`, the bound 256) along the list operations.
-/
import StVerif.Base

namespace StVerif

/-- the C++ clamp `if (n > m) n = m;` -/
theorem clamp_eq_min (n m : Nat) : (if n > m then m else n) = min n m := by
  simp only [Nat.min_def, ← Nat.not_le, ite_not]

theorem all_congr_mem {α : Type} {l : List α} {p q : α → Bool} (h : ∀ a ∈ l, p a = q a) : l.all p = l.all q := by
  induction l with
  | nil => rfl
  | cons a l ih =>
    obtain ⟨ha, hl⟩ := List.forall_mem_cons.mp h
    rw [List.all_cons, List.all_cons, ha, ih hl]

theorem takeWhile_eq_self {α : Type} {p : α → Bool} {l : List α} (h : ∀ a ∈ l, p a = true) : l.takeWhile p = l := by
  have := List.takeWhile_append_of_pos (l₂ := []) h
  rwa [List.append_nil, List.takeWhile_nil, List.append_nil] at this

theorem length_takeWhile_le {α : Type} (p : α → Bool) (l : List α) : (l.takeWhile p).length ≤ l.length :=
  (List.takeWhile_sublist p).length_le

theorem length_dropWhile_le {α : Type} (p : α → Bool) (l : List α) : (l.dropWhile p).length ≤ l.length :=
  (List.dropWhile_sublist p).length_le

theorem takeWhile_all {α : Type} (p : α → Bool) (l : List α) : ∀ c ∈ l.takeWhile p, p c = true :=
  List.all_eq_true.1 List.all_takeWhile

theorem getElem?_splice {α : Type} {l m : List α} {a n : Nat} (hn : m.length = n) (h : a ≤ l.length) (i : Nat) :
    (l.take a ++ m ++ l.drop (a + n))[i]? =
      if i < a then l[i]? else if i < a + n then m[i - a]? else l[i]? := by
  simp only [List.getElem?_append, List.length_append, List.length_take_of_le h, hn, List.getElem?_take, List.getElem?_drop]
  by_cases h1 : i < a
  · simp only [h1, Nat.lt_add_right n h1, ↓reduceIte]
  · by_cases h2 : i < a + n
    · simp only [h1, h2, ↓reduceIte]
    · simp only [h1, h2, ↓reduceIte]
      rw [Nat.add_sub_cancel' (Nat.le_of_not_lt h2)]

theorem length_splice {α : Type} {l m : List α} {a n : Nat} (hn : m.length = n) (h : a + n ≤ l.length) :
    (l.take a ++ m ++ l.drop (a + n)).length = l.length := by
  rw [List.length_append, List.length_append, List.length_take_of_le (Nat.le_of_add_right_le h), List.length_drop, hn,
    Nat.add_sub_cancel' h]

theorem sum_map_le (f : Nat → Nat) (k : Nat) (h : ∀ x, f x ≤ k) (xs : List Nat) : (xs.map f).sum ≤ k * xs.length := by
  induction xs with
  | nil => simp
  | cons x r ih => simp only [List.map_cons, List.sum_cons, List.length_cons]; have := h x; rw [Nat.mul_add]; omega

theorem UnitsLt_cons {n a : Nat} {l : List Nat} : UnitsLt n (a :: l) ↔ a < n ∧ UnitsLt n l := by
  simp [UnitsLt]

theorem UnitsLt_append {n : Nat} {x y : List Nat} : UnitsLt n (x ++ y) ↔ UnitsLt n x ∧ UnitsLt n y := by
  simp only [UnitsLt, List.mem_append]
  exact ⟨fun h => ⟨fun b hb => h b (.inl hb), fun b hb => h b (.inr hb)⟩, fun h b hb => hb.elim (h.1 b) (h.2 b)⟩

theorem Bytes_cons {a : Nat} {l : List Nat} : Bytes (a :: l) ↔ a < 256 ∧ Bytes l := UnitsLt_cons

theorem UnitsLt.take {n : Nat} {l : List Nat} (h : UnitsLt n l) (k : Nat) : UnitsLt n (l.take k) :=
  fun x hx => h x (List.mem_of_mem_take hx)

end StVerif
