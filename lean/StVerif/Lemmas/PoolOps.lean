/-
  Every `ST::buffer<T>` member of Model/Pool.lean: the do-block is evaluated on a state satisfying `Inv`
  (branching only where the code branches: contents in the object or on the heap, allocation succeeding or
  failing), the result is `.ok`, or `.throw badAlloc` and then the fault schedule failed the next allocation
  (`Outcome`; that a scheduled fault does fire is shown for `allocate` alone, `allocate_throws`), and the
  successor state is related to the old one by `Succ` (invariant kept, every other object untouched) together
  with the operands' new views.  No `fault` outcome is reachable.
-/
import StVerif.Lemmas.PoolInv

namespace StVerif.Pool

variable {L o n src : Nat} {b : Buf} {p : Pool} {us : List Nat}

theorem isReffed_iff : b.isReffed L = true ↔ L ≤ b.size := by
  simp [Buf.isReffed]

theorem shortOk_empty (hL : 0 < L) : ShortOk L o { chars := .loc o, size := 0, data := zeros L } :=
  ⟨length_zeros L, hL, rfl, getElem?_zeros hL⟩

theorem shortOk_term {d : List Nat} (hn : n < L) (hd : d.length = L) :
    ShortOk L o { chars := .loc o, size := n, data := overwrite d n [0] } :=
  ⟨(length_overwrite (hd ▸ hn)).trans hd, hn, rfl, getElem?_overwrite_term (hd ▸ hn)⟩

theorem Inv.shortOk_of_short (hI : Inv p) {o' : Nat} (h : p.objs o = some b) (hs : b.size < p.L) :
    ShortOk p.L o' { chars := .loc o', size := b.size, data := b.data } :=
  ⟨(hI.short_chars h hs).2.2, hs, rfl, (hI.short_chars h hs).2.1⟩

theorem Inv.units_length (hI : Inv p) (hb : p.objs o = some b) : (units p b).length = b.size := by
  rcases hI.storage hb with ⟨hs, hc, _, hlen⟩ | ⟨_, k, blk, hc, hblk, hlen, _⟩
  · rw [units_short hb hc]; exact List.length_take_of_le (hlen.symm ▸ Nat.le_of_lt hs)
  · rw [units_long hc hblk]; exact List.length_take_of_le (hlen.symm ▸ Nat.le_succ _)

/-- `delete[] m_chars` of a long object -/
theorem Inv.delete_long (hI : Inv p) (ho : p.objs o = some b) (hl : p.L ≤ b.size) :
    ∃ h', deleteBlock b.chars p = .ok () { p with heap := h' } ∧ Released p o h' := by
  obtain ⟨k, blk, hc, hblk, _, _, hown⟩ := hI.owner_block ho hl
  exact ⟨_, by rw [hc, deleteBlock_some hblk], hown.released⟩

/-- `if (is_reffed()) delete[] m_chars;` followed by the rest `f` of the member function -/
theorem Inv.release (hI : Inv p) (ho : p.objs o = some b) {α : Type} (f : M α) :
    ∃ h', (if b.isReffed p.L = true then deleteBlock b.chars >>= fun _ => f else f) p = f { p with heap := h' } ∧
      Released p o h' := by
  by_cases hl : p.L ≤ b.size
  · obtain ⟨h', hdel, hr⟩ := hI.delete_long ho hl
    exact ⟨h', by rw [if_pos (isReffed_iff.2 hl), bind_apply, hdel], hr⟩
  · exact ⟨p.heap, by rw [if_neg (fun h => hl (isReffed_iff.1 h))], (notOwning_of_short ho (Nat.lt_of_not_le hl)).released⟩

theorem fill_heap₁ {objs : Nat → Option Buf} {h : Nat → Option (List Nat)} {nx al : Nat} {fa : Option Nat}
    {k x : Nat} (hus : us.length = n) :
    writeUnits (.heap k) 0 us ⟨L, objs, upd h k (some (List.replicate (n + 1) x)), nx, al, fa⟩ =
      .ok () ⟨L, objs, upd h k (some (overwrite (List.replicate (n + 1) x) 0 us)), nx, al, fa⟩ := by
  rw [writeUnits_heap (upd_same _ _ _) (by simp; omega)]
  simp only [upd_upd]

theorem fill_heap₂ {objs : Nat → Option Buf} {h : Nat → Option (List Nat)} {nx al : Nat} {fa : Option Nat}
    {k x : Nat} (hus : us.length = n) :
    writeUnits (.heap k) n [0] ⟨L, objs, upd h k (some (overwrite (List.replicate (n + 1) x) 0 us)), nx, al, fa⟩ =
      .ok () ⟨L, objs, upd h k (some (us ++ [0])), nx, al, fa⟩ := by
  rw [writeUnits_heap (upd_same _ _ _) (by rw [length_overwrite (by simp; omega)]; simp)]
  subst hus
  simp [upd_upd, overwrite_fill]

theorem ctorDefault_spec (hI : Inv p) (ho : p.objs o = none) :
    ∃ p', ctorDefault o p = .ok () p' ∧ Succ p p' (· = o) ∧ view p' o = some (0, []) := by
  simp only [ctorDefault, bind_apply, getP_apply, setObj_eq]
  exact ⟨_, rfl, hI.set_short (notOwning_of_none ho) (shortOk_empty hI.Lpos) rfl⟩

/-- the two possible outcomes of an operation started in a state satisfying the invariant: it completes,
    or — only when the fault schedule makes its allocation fail — `bad_alloc` propagates.  Either way the
    successor satisfies `Succ` for the operand set `T`; never a `fault`. -/
def Outcome (r : Res Unit) (p : Pool) (T : Nat → Prop) (okPost throwPost : Pool → Prop) : Prop :=
  (∃ p', r = .ok () p' ∧ Succ p p' T ∧ okPost p') ∨
  (∃ p', r = .throw .badAlloc p' ∧ p.failAt = some (p.allocs + 1) ∧ Succ p p' T ∧ throwPost p')

theorem Outcome.of_ok {r : Res Unit} {p : Pool} {T : Nat → Prop} {okPost throwPost : Pool → Prop}
    (h : ∃ p', r = .ok () p' ∧ Succ p p' T ∧ okPost p') : Outcome r p T okPost throwPost := Or.inl h

theorem Outcome.cases {r : Res Unit} {T : Nat → Prop} {okPost throwPost : Pool → Prop} (h : Outcome r p T okPost throwPost) :
    (∃ p', r = .ok () p' ∧ Succ p p' T ∧ okPost p') ∨
    (∃ p', r = .throw .badAlloc p' ∧ p.failAt ≠ none ∧ Succ p p' T ∧ throwPost p') :=
  h.imp_right (by rintro ⟨p', h1, hf, h2⟩; exact ⟨p', h1, hf ▸ Option.some_ne_none _, h2⟩)

theorem ctorUnits_spec (hI : Inv p) (ho : p.objs o = none) (us : List Nat) :
    Outcome (ctorUnits o us p) p (· = o) (fun p' => view p' o = some (us.length, us)) (fun p' => view p' o = none) := by
  simp only [ctorUnits, bind_apply, getP_apply, ge_iff_le]
  by_cases hl : p.L ≤ us.length
  · by_cases hf : p.failAt = some (p.allocs + 1)
    · simp only [if_pos hl, bind_apply, newBlock_throw _ hf]
      exact Or.inr ⟨_, rfl, hf, hI.succ_allocs _, view_eq_none.2 ho⟩
    · simp only [if_pos hl, bind_apply, newBlock_ok _ hf, setObj_eq, fill_heap₁ rfl, fill_heap₂ rfl]
      exact Or.inl ⟨_, rfl, hI.fresh (notOwning_of_none ho) hl (length_zeros _) rfl rfl⟩
  · have hs : us.length < p.L := Nat.lt_of_not_le hl
    have h0 : 0 + us.length ≤ (zeros p.L).length := by rw [length_zeros, Nat.zero_add]; exact Nat.le_of_lt hs
    have hd := (length_overwrite h0).trans (length_zeros _)
    simp only [if_neg hl, bind_apply, pure_apply, setObj_eq]
    rw [writeUnits_loc (upd_same _ _ _) h0]
    simp only []
    rw [writeUnits_loc (upd_same _ _ _) (hd.symm ▸ hs)]
    simp only [upd_upd]
    have := hI.set_short (notOwning_of_none ho) (shortOk_term (o := o) hs hd) rfl
    rw [take_overwrite_term (hd.symm ▸ Nat.le_of_lt hs), take_overwrite_zero] at this
    exact Or.inl ⟨_, rfl, this⟩

theorem ctorCopy_spec (hI : Inv p) {c : Buf} (ho : p.objs o = none) (hsrc : p.objs src = some c) :
    Outcome (ctorCopy o src p) p (· = o) (fun p' => view p' o = view p src) (fun p' => view p' o = none) := by
  simp only [ctorCopy, bind_apply, getP_apply, getObj_some hsrc, isReffed_iff]
  by_cases hl : p.L ≤ c.size
  · by_cases hf : p.failAt = some (p.allocs + 1)
    · simp only [if_pos hl, bind_apply, newBlock_throw _ hf]
      exact Or.inr ⟨_, rfl, hf, hI.succ_allocs _, view_eq_none.2 ho⟩
    · obtain ⟨k, blk, hc, hblk, hlen, _⟩ := hI.owner_block hsrc hl
      have hk : k ≠ p.next := Nat.ne_of_lt (hI.bound k blk hblk)
      have hle : c.size ≤ blk.length := hlen.symm ▸ Nat.le_succ _
      have hlt := List.length_take_of_le hle
      simp only [if_pos hl, bind_apply, newBlock_ok _ hf, hc]
      rw [readUnits_heap (blk := blk) ((upd_other _ _ hk).trans hblk) hle]
      simp only [setObj_eq, fill_heap₁ hlt, fill_heap₂ hlt, getObj, upd_same, upd_upd]
      rw [view_long hsrc hc hblk]
      exact Or.inl ⟨_, rfl, hI.fresh (notOwning_of_none ho) hl (length_zeros _) hlt rfl⟩
  · have hs : c.size < p.L := Nat.lt_of_not_le hl
    simp only [if_neg hl, setObj_eq]
    rw [view_short hsrc (hI.short_chars hsrc hs).1]
    exact Or.inl ⟨_, rfl, hI.set_short (b' := ⟨.loc o, c.size, c.data⟩) (notOwning_of_none ho) (hI.shortOk_of_short hsrc hs) rfl⟩

theorem ctorMove_spec (hI : Inv p) {mv : Buf} (ho : p.objs o = none) (hsrc : p.objs src = some mv) :
    ∃ p', ctorMove o src p = .ok () p' ∧ Succ p p' (fun x => x = o ∨ x = src) ∧ view p' o = view p src ∧
      view p' src = some (0, []) := by
  have hne : src ≠ o := fun e => by rw [e, ho] at hsrc; cases hsrc
  simp only [ctorMove, bind_apply, getP_apply, getObj_some hsrc, setObj_eq]
  have hS := hI.exchange hne ((shortOk_term hI.Lpos (hI.obj src mv hsrc).len).takesOver (notOwning_of_none ho))
    (hI.rehome_takesOver hsrc o) rfl
  exact ⟨_, rfl, hS.mono (fun _ => Or.symm),
    hI.view_rehome hsrc ((upd_other _ _ hne.symm).trans (upd_same _ _ _)) rfl,
    view_short (b := ⟨.loc src, 0, overwrite mv.data 0 [0]⟩) (upd_same _ _ _) rfl⟩

theorem dtor_spec (hI : Inv p) (ho : p.objs o = some b) :
    ∃ p', dtor o p = .ok () p' ∧ Succ p p' (· = o) ∧ view p' o = none := by
  obtain ⟨h', hdel, hr⟩ := hI.release ho (dropObj o)
  simp only [dtor, bind_apply, getP_apply, getObj_some ho]
  rw [hdel, dropObj_eq]
  exact ⟨_, rfl, hI.set_local (nb := none) hr (fun _ h => nomatch h) rfl⟩

theorem clear_spec (hI : Inv p) (ho : p.objs o = some b) :
    ∃ p', clear o p = .ok () p' ∧ Succ p p' (· = o) ∧ view p' o = some (0, []) := by
  obtain ⟨h', hdel, hr⟩ := hI.release ho (setObj o ⟨.loc o, 0, zeros p.L⟩)
  simp only [clear, bind_apply, getP_apply, getObj_some ho]
  rw [hdel, setObj_eq]
  exact ⟨_, rfl, hI.set_local hr (fun _ h => Option.some.inj h ▸ shortOk_empty hI.Lpos) rfl⟩

/-- storing `us` at `data() + a` with `a + |us| ≤ size()` -/
theorem write_spec (hI : Inv p) {a : Nat} {old : List Nat} (ho : p.objs o = some b)
    (hv : view p o = some (n, old)) (hr : a + us.length ≤ n) :
    ∃ p', writeUnits b.chars a us p = .ok () p' ∧ Succ p p' (· = o) ∧ view p' o = some (n, overwrite old a us) := by
  rcases hI.storage ho with ⟨hs, hc, hterm, hlen⟩ | ⟨hl, k, blk, hc, hblk, hlen, hterm, _⟩
  · cases (view_short ho hc).symm.trans hv
    have hfit : a + us.length ≤ b.data.length := hlen.symm ▸ Nat.le_trans hr (Nat.le_of_lt hs)
    rw [hc, writeUnits_loc ho hfit]
    have hb : ShortOk p.L o { b with data := overwrite b.data a us } :=
      ⟨(length_overwrite hfit).trans hlen, hs, hc, (getElem?_overwrite_ge hfit hr).trans hterm⟩
    have := hI.set_short (notOwning_of_short ho hs) hb rfl
    exact ⟨_, rfl, this.1, by rw [this.2, take_overwrite_within hr (hlen.symm ▸ Nat.le_of_lt hs)]⟩
  · cases (view_long ho hc hblk).symm.trans hv
    have hfit : a + us.length ≤ blk.length := hlen.symm ▸ Nat.le_succ_of_le hr
    rw [hc, writeUnits_heap hblk hfit]
    have := hI.write_long (blk' := overwrite blk a us) ho hl hc
      ((length_overwrite hfit).trans hlen) ((getElem?_overwrite_ge hfit hr).trans hterm) rfl
    exact ⟨_, rfl, this.1, by rw [this.2, take_overwrite_within hr (hlen.symm ▸ Nat.le_succ _)]⟩

theorem writeData_spec (hI : Inv p) {a : Nat} {old : List Nat} (hv : view p o = some (n, old)) (hr : a + us.length ≤ n) :
    ∃ p', writeData o a us p = .ok () p' ∧ Succ p p' (· = o) ∧ view p' o = some (n, overwrite old a us) := by
  obtain ⟨b, hb⟩ := objs_some_of_view hv
  simp only [writeData, bind_apply, getObj_some hb, view_size hb hv, hr, ↓reduceIte]
  exact write_spec hI hb hv hr

/-! ### members in two phases: the invariant holds again after a first phase that releases storage -/

theorem Outcome.after {x : M Unit} {f : Unit → M Unit} {p₁ : Pool} {T : Nat → Prop} {ok ok' thr thr' : Pool → Prop}
    (h₁ : x p = .ok () p₁) (hS : Succ p p₁ T) (ha : p₁.allocs = p.allocs) (h₂ : Outcome (f () p₁) p₁ T ok thr)
    (hok : ∀ p', ok p' → ok' p') (hthr : ∀ p', thr p' → thr' p') : Outcome ((x >>= f) p) p T ok' thr' := by
  rw [bind_apply, h₁]
  rcases h₂ with ⟨p', e, hS', h⟩ | ⟨p', e, hf, hS', h⟩
  · exact Or.inl ⟨p', e, hS.trans hS', hok p' h⟩
  · exact Or.inr ⟨p', e, by rw [← hS.failAt, ← ha]; exact hf, hS.trans hS', hthr p' h⟩

/-- first phase of copy assignment -/
def assignCopyReset (o : Nat) : M Unit := do
  let p ← getP
  let b ← getObj o
  if b.isReffed p.L then
    deleteBlock b.chars
    setObj o { chars := .loc o, size := 0, data := overwrite b.data 0 [0] }

def assignCopyTail (L o src : Nat) : M Unit := do
  let c ← getObj src
  if c.isReffed L then
    let chars ← newBlock (c.size + 1)
    let us ← readUnits c.chars c.size
    writeUnits chars 0 us
    writeUnits chars c.size [0]
    let b ← getObj o
    setObj o { b with chars := chars, size := c.size }
  else
    setObj o { chars := .loc o, size := c.size, data := c.data }

theorem assignCopy_phases (o src : Nat) (p : Pool) (h : o ≠ src) :
    assignCopy o src p = (assignCopyReset o >>= fun _ => assignCopyTail p.L o src) p := by
  simp only [assignCopy, h, assignCopyReset, assignCopyTail, ↓reduceIte, bind_apply, getP_apply]
  cases getObj o p with
  | ok b p1 =>
    by_cases hr : b.isReffed p.L = true
    · simp only [hr, ↓reduceIte, bind_apply]
      cases deleteBlock b.chars p1 <;> rfl
    · simp only [hr, Bool.false_eq_true, ↓reduceIte, bind_apply, pure_apply]
  | _ => rfl

theorem assignCopyReset_spec (hI : Inv p) (ho : p.objs o = some b) :
    ∃ p₁, assignCopyReset o p = .ok () p₁ ∧ Succ p p₁ (· = o) ∧ p₁.allocs = p.allocs ∧ NotOwning p₁ o ∧
      (∃ b₁, p₁.objs o = some b₁) ∧ (view p₁ o = view p o ∨ view p₁ o = some (0, [])) := by
  simp only [assignCopyReset, bind_apply, getP_apply, getObj_some ho, isReffed_iff]
  by_cases hl : p.L ≤ b.size
  · obtain ⟨h', hdel, hr⟩ := hI.delete_long ho hl
    simp only [if_pos hl, bind_apply, hdel, setObj_eq]
    have := hI.set_local hr (fun _ h => Option.some.inj h ▸ shortOk_term (o := o) hI.Lpos (hI.obj o b ho).len) rfl
    exact ⟨_, rfl, this.1, rfl, notOwning_of_short (upd_same _ _ _) hI.Lpos, ⟨_, upd_same _ _ _⟩, Or.inr this.2⟩
  · simp only [if_neg hl, pure_apply]
    exact ⟨p, rfl, Succ.refl' hI _, rfl, notOwning_of_short ho (Nat.lt_of_not_le hl), ⟨b, ho⟩, Or.inl rfl⟩

theorem assignCopyTail_spec (hI : Inv p) {c : Buf} (ho : p.objs o = some b) (hno : NotOwning p o)
    (hsrc : p.objs src = some c) :
    Outcome (assignCopyTail p.L o src p) p (· = o) (fun p' => view p' o = view p src) (fun p' => view p' o = view p o) := by
  simp only [assignCopyTail, bind_apply, getObj_some hsrc, isReffed_iff]
  by_cases hl : p.L ≤ c.size
  · by_cases hf : p.failAt = some (p.allocs + 1)
    · simp only [if_pos hl, bind_apply, newBlock_throw _ hf]
      exact Or.inr ⟨_, rfl, hf, hI.succ_allocs _, rfl⟩
    · obtain ⟨k, blk, hc, hblk, hlen, _⟩ := hI.owner_block hsrc hl
      have hk : k ≠ p.next := Nat.ne_of_lt (hI.bound k blk hblk)
      have hle : c.size ≤ blk.length := hlen.symm ▸ Nat.le_succ _
      have hlt := List.length_take_of_le hle
      simp only [if_pos hl, bind_apply, newBlock_ok _ hf, hc]
      rw [readUnits_heap (blk := blk) ((upd_other _ _ hk).trans hblk) hle]
      simp only [fill_heap₁ hlt, fill_heap₂ hlt, getObj, ho, setObj_eq]
      rw [view_long hsrc hc hblk]
      exact Or.inl ⟨_, rfl, hI.fresh hno hl (hI.obj o b ho).len hlt rfl⟩
  · have hs : c.size < p.L := Nat.lt_of_not_le hl
    simp only [if_neg hl, setObj_eq]
    rw [view_short hsrc (hI.short_chars hsrc hs).1]
    exact Or.inl ⟨_, rfl, hI.set_short (b' := ⟨.loc o, c.size, c.data⟩) hno (hI.shortOk_of_short hsrc hs) rfl⟩

theorem assignCopy_spec (hI : Inv p) {c : Buf} (ho : p.objs o = some b) (hsrc : p.objs src = some c) :
    Outcome (assignCopy o src p) p (· = o) (fun p' => view p' o = view p src)
      (fun p' => view p' o = view p o ∨ view p' o = some (0, [])) := by
  by_cases hne : o = src
  · subst hne
    exact Or.inl ⟨p, by simp [assignCopy], Succ.refl' hI _, rfl⟩
  · rw [assignCopy_phases o src p hne]
    obtain ⟨p₁, hr, hS, ha, hno, ⟨b₁, hb₁⟩, hv⟩ := assignCopyReset_spec hI ho
    have h₂ := assignCopyTail_spec hS.inv hb₁ hno ((hS.objs src (Ne.symm hne)).trans hsrc)
    rw [hS.L] at h₂
    exact Outcome.after hr hS ha h₂ (fun p' h => h.trans (hS.view src (Ne.symm hne))) (fun p' h => by rw [h]; exact hv)

theorem assignMove_spec (hI : Inv p) {a : Buf} (ho : p.objs o = some a) (hsrc : p.objs src = some b) :
    ∃ p', assignMove o src p = .ok () p' ∧ Succ p p' (fun x => x = o ∨ x = src) ∧ view p' o = view p src ∧
      view p' src = view p o := by
  -- `if (!is_reffed()) m_chars = m_data` after the swap
  have hre : ∀ (x : Nat) (c : Buf), (if Buf.isReffed p.L ⟨c.chars, c.size, c.data⟩ = true then ⟨c.chars, c.size, c.data⟩
      else ⟨.loc x, c.size, c.data⟩) = rehome p.L x c := by
    intro x c
    by_cases hl : p.L ≤ c.size
    · rw [if_pos (isReffed_iff.2 hl), rehome_long hl]
    · rw [if_neg (fun h => hl (isReffed_iff.1 h)), rehome_short (Nat.lt_of_not_le hl)]
  simp only [assignMove, bind_apply, getP_apply, getObj_some ho, getObj_some hsrc, setObj_eq, hre]
  by_cases hne : o = src
  · subst hne
    cases ho.symm.trans hsrc
    rw [upd_upd, hI.rehome_self ho, upd_eq_self ho]
    exact ⟨p, rfl, Succ.refl' hI _, rfl, rfl⟩
  · exact ⟨_, rfl, hI.exchange hne (hI.rehome_takesOver hsrc o) (hI.rehome_takesOver ho src) rfl,
      hI.view_rehome hsrc (upd_same _ _ _) rfl, hI.view_rehome ho ((upd_other _ _ (Ne.symm hne)).trans (upd_same _ _ _)) rfl⟩

/-- first phase of `allocate` (as repaired) -/
def allocateReset (o : Nat) : M Unit := do
  let p ← getP
  let b ← getObj o
  if b.isReffed p.L then
    deleteBlock b.chars
    setObj o { chars := .loc o, size := 0, data := overwrite b.data 0 [0] }
  else
    setObj o { chars := .loc o, size := 0, data := zeros p.L }

def allocateTail (L o n : Nat) : M Unit := do
  if n ≥ L then
    let chars ← newBlock (n + 1)
    let b ← getObj o
    setObj o { b with chars := chars, size := n }
    writeUnits chars n [0]
  else
    let b ← getObj o
    setObj o { b with size := n }
    writeUnits (.loc o) n [0]

theorem allocate_phases (o n : Nat) (p : Pool) :
    allocate o n p = (allocateReset o >>= fun _ => allocateTail p.L o n) p := by
  simp only [allocate, allocateReset, allocateTail, bind_apply, getP_apply]
  cases getObj o p with
  | ok b p1 =>
    by_cases hr : b.isReffed p.L = true
    · simp only [hr, ↓reduceIte, bind_apply]
      cases deleteBlock b.chars p1 <;> rfl
    · simp only [hr, Bool.false_eq_true, ↓reduceIte]; rfl
  | _ => rfl

theorem allocateReset_spec (hI : Inv p) (ho : p.objs o = some b) :
    ∃ p₁, allocateReset o p = .ok () p₁ ∧ Succ p p₁ (· = o) ∧ p₁.allocs = p.allocs ∧ view p₁ o = some (0, []) := by
  simp only [allocateReset, bind_apply, getP_apply, getObj_some ho, isReffed_iff]
  by_cases hl : p.L ≤ b.size
  · obtain ⟨h', hdel, hr⟩ := hI.delete_long ho hl
    simp only [if_pos hl, bind_apply, hdel, setObj_eq]
    have := hI.set_local hr (fun _ h => Option.some.inj h ▸ shortOk_term (o := o) hI.Lpos (hI.obj o b ho).len) rfl
    exact ⟨_, rfl, this.1, rfl, this.2⟩
  · simp only [if_neg hl, setObj_eq]
    have := hI.set_short (notOwning_of_short ho (Nat.lt_of_not_le hl)) (shortOk_empty (o := o) hI.Lpos) rfl
    exact ⟨_, rfl, this.1, rfl, this.2⟩

theorem allocateTail_long_throw (hI : Inv p) (hn : p.L ≤ n) (hf : p.failAt = some (p.allocs + 1)) (T : Nat → Prop) :
    ∃ p', allocateTail p.L o n p = .throw .badAlloc p' ∧ Succ p p' T ∧ ∀ x, view p' x = view p x := by
  simp only [allocateTail, bind_apply, ge_iff_le, hn, ↓reduceIte, newBlock_throw _ hf]
  exact ⟨_, rfl, hI.succ_allocs T, fun _ => rfl⟩

theorem allocateTail_spec (hI : Inv p) (ho : p.objs o = some b) (hs : b.size < p.L) (n : Nat) :
    Outcome (allocateTail p.L o n p) p (· = o) (fun p' => ∃ us, us.length = n ∧ view p' o = some (n, us))
      (fun p' => view p' o = view p o) := by
  by_cases hn : p.L ≤ n
  · by_cases hf : p.failAt = some (p.allocs + 1)
    · obtain ⟨p', h1, h2, h3⟩ := allocateTail_long_throw hI (o := o) hn hf (· = o)
      exact Or.inr ⟨p', h1, hf, h2, h3 o⟩
    · simp only [allocateTail, bind_apply, ge_iff_le, hn, ↓reduceIte, newBlock_ok _ hf, getObj, ho, setObj_eq]
      rw [writeUnits_heap (upd_same _ _ _) (by simp)]
      have hblk : overwrite (List.replicate (n + 1) 0xCD) n [0] = List.replicate n 0xCD ++ [0] := by
        simp [overwrite_term]
      simp only [upd_upd, hblk]
      have := hI.fresh (vs := List.replicate n 0xCD) (notOwning_of_short ho hs) hn (hI.obj o b ho).len List.length_replicate rfl
      exact Or.inl ⟨_, rfl, this.1, _, List.length_replicate, this.2⟩
  · obtain ⟨hc, _, hlen⟩ := hI.short_chars ho hs
    have hb := shortOk_term (o := o) (Nat.lt_of_not_le hn) hlen
    simp only [allocateTail, bind_apply, ge_iff_le, hn, ↓reduceIte, getObj_some ho, setObj_eq]
    rw [writeUnits_loc (upd_same _ _ _) (hlen ▸ hb.size)]
    simp only [upd_upd, hc]
    have := hI.set_short (notOwning_of_short ho hs) hb rfl
    exact Or.inl ⟨_, rfl, this.1, _, List.length_take_of_le (hb.len ▸ Nat.le_of_lt hb.size), this.2⟩

theorem allocate_spec (hI : Inv p) (n : Nat) (ho : p.objs o = some b) :
    Outcome (allocate o n p) p (· = o) (fun p' => ∃ us, us.length = n ∧ view p' o = some (n, us))
      (fun p' => view p' o = some (0, [])) := by
  rw [allocate_phases]
  obtain ⟨p₁, hr, hS, ha, hv⟩ := allocateReset_spec hI ho
  obtain ⟨b₁, hb₁⟩ := objs_some_of_view hv
  have h₂ := allocateTail_spec hS.inv hb₁ ((view_size hb₁ hv).symm ▸ hS.inv.Lpos) n
  rw [hS.L] at h₂
  exact Outcome.after hr hS ha h₂ (fun _ h => h) (fun _ h => h.trans hv)

theorem allocate_throws (hI : Inv p) (ho : p.objs o = some b) (hn : p.L ≤ n) (hf : p.failAt = some (p.allocs + 1)) :
    ∃ p', allocate o n p = .throw .badAlloc p' := by
  obtain ⟨p₁, h₁, hS, ha, _⟩ := allocateReset_spec hI ho
  obtain ⟨p', h₂, _⟩ := allocateTail_long_throw hS.inv (o := o) (n := n) (hS.L ▸ hn) (by rw [hS.failAt, ha]; exact hf) (· = o)
  rw [hS.L] at h₂
  exact ⟨p', by rw [allocate_phases]; simp only [bind_apply, h₁, h₂]⟩

theorem allocateFill_spec (hI : Inv p) (n v : Nat) (ho : p.objs o = some b) :
    Outcome (allocateFill o n v p) p (· = o) (fun p' => view p' o = some (n, List.replicate n v))
      (fun p' => view p' o = some (0, [])) := by
  simp only [allocateFill, bind_apply]
  rcases allocate_spec hI n ho with ⟨p₂, h1, h2, us, hlen, hv⟩ | ⟨p₂, h1, hf, h2, hv⟩
  · obtain ⟨b₂, hb₂⟩ := objs_some_of_view hv
    obtain ⟨p', h3, h4, v'⟩ := write_spec h2.inv (a := 0) (us := List.replicate n v) hb₂ hv (by simp)
    rw [h1]
    simp only [getObj_some hb₂]
    exact Or.inl ⟨p', h3, h2.trans h4, v'.trans (by rw [overwrite_all (by rw [hlen]; simp)])⟩
  · rw [h1]
    exact Or.inr ⟨p₂, rfl, hf, h2, hv⟩

end StVerif.Pool
