/-
  First, once per *shape of state change* of the stream machine (`Inv.setO`, `Inv.setH`, `Inv.destroy`, `Inv.regrow`,
  `Inv.transfer`): the invariant holds again and the other streams show what they showed.  Then, for every
  member function of the stream machine, what it returns on a pool that satisfies the invariant: the function's
  statements are evaluated and the shapes are cited; `Upd` composes the steps that work on one stream.  Last, one step of
  a history (`step_sound`: its three-way outcome is `Sound`) and whole histories; at the end what C16's two
  moved-from theorems share (`Props.C16.moved_from_usable`).
-/
import StVerif.Lemmas.Stream

namespace StVerif.Stream
open StVerif.Generated StVerif.Spec

variable {p p' : Pool} {o src : Nat} {s s' mv : Obj} {st' : ByteLog.State} {r : Res Unit}

/-- `p'` is `p` after member functions of the live stream `o` alone have run -/
structure Upd (p p' : Pool) (o : Nat) (s' : Obj) : Prop where
  inv : Inv p'
  obj : p'.objs o = some s'
  frame : ∀ x, x ≠ o → abs p' x = abs p x
  failAt : p'.failAt = p.failAt

theorem Upd.refl (hi : Inv p) (ho : p.objs o = some s) : Upd p p o s :=
  ⟨hi, ho, fun _ _ => rfl, rfl⟩

theorem Upd.trans {p₁ p₂ : Pool} {s₁ s₂ : Obj} (h₁ : Upd p p₁ o s₁) (h₂ : Upd p₁ p₂ o s₂) : Upd p p₂ o s₂ :=
  ⟨h₂.inv, h₂.obj, fun x hx => (h₂.frame x hx).trans (h₁.frame x hx), h₂.failAt.trans h₁.failAt⟩

theorem Upd.abs_eq (h : Upd p p' o s') {v : Option (List Nat)} (hv : abs p' o = v) : abs p' = (abs p).set o v :=
  eq_set h.frame hv

theorem ObjOk.mono {x : Nat} {t : Obj} (h : ObjOk p x t) (hk : ∀ k, t.chars = .heap k → p'.heap k = p.heap k) :
    ObjOk p' x t :=
  ⟨h.1, h.2.1, h.2.2.imp_right (by rintro ⟨ha, k, blk, hc, hb, hl⟩; exact ⟨ha, k, blk, hc, (hk k hc).trans hb, hl⟩)⟩

/-- **A stream is replaced, or comes into being, without gaining or giving up a block.** -/
theorem Inv.setO (hi : Inv p) (hown : ∀ k, s'.chars = .heap k ↔ ∃ s, p.objs o = some s ∧ s.chars = .heap k)
    (hok : ObjOk p o s') : Upd p (p.setO o (some s')) o s' := by
  refine ⟨⟨?_, ?_, ?_, hi.fresh⟩, if_pos rfl, fun x hx => abs_frame hi x (if_neg hx) (fun _ _ _ _ => rfl), rfl⟩
  · intro x t hx
    rw [setO_objs] at hx
    split at hx
    · subst x; cases hx; exact hok
    · exact hi.obj x t hx
  · intro o₁ o₂ s₁ s₂ k h1 h2 c1 c2
    -- whoever points to `k` now pointed to it before
    have who : ∀ x t, (p.setO o (some s')).objs x = some t → t.chars = .heap k → ∃ t₀, p.objs x = some t₀ ∧ t₀.chars = .heap k := by
      intro x t hx hc
      rw [setO_objs] at hx
      split at hx
      · subst x; cases hx; exact (hown k).mp hc
      · exact ⟨t, hx, hc⟩
    obtain ⟨t₁, a1, b1⟩ := who o₁ s₁ h1 c1
    obtain ⟨t₂, a2, b2⟩ := who o₂ s₂ h2 c2
    exact hi.uniq o₁ o₂ t₁ t₂ k a1 a2 b1 b2
  · intro k blk hk
    obtain ⟨x, t, hx, hc⟩ := hi.owned k blk hk
    by_cases hxo : x = o
    · subst x
      exact ⟨o, s', if_pos rfl, (hown k).mpr ⟨t, hx, hc⟩⟩
    · exact ⟨x, t, (if_neg hxo).trans hx, hc⟩

theorem Inv.setO_fields (hi : Inv p) (ho : p.objs o = some s) (hc : s'.chars = s.chars) (hok : ObjOk p o s') :
    Upd p (p.setO o (some s')) o s' := by
  refine hi.setO (fun k => ⟨fun h => ⟨s, ho, hc ▸ h⟩, ?_⟩) hok
  rintro ⟨_, e, h⟩
  rw [ho] at e; cases e
  exact hc ▸ h

theorem Inv.create (hi : Inv p) (hd : p.objs o = none) (hc : s'.chars = .stack o) (hok : ObjOk p o s') :
    Upd p (p.setO o (some s')) o s' := by
  refine hi.setO (fun k => ⟨fun h => ?_, ?_⟩) hok
  · rw [hc] at h; cases h
  · rintro ⟨_, e, _⟩
    rw [hd] at e; cases e

theorem Inv.setH (hi : Inv p) {k : Nat} {blk blk' : List Nat} (ho : p.objs o = some s)
    (hc : s.chars = .heap k) (hk : p.heap k = some blk) (hl : blk'.length = blk.length) :
    Upd p (p.setH k (some blk')) o s := by
  refine ⟨⟨?_, hi.uniq, ?_, ?_⟩, ho, fun x hx => abs_frame hi x rfl fun t k' hxt hc' => ?_, rfl⟩
  · intro x t hx
    obtain ⟨h1, h2, h3⟩ := hi.obj x t hx
    refine ⟨h1, h2, h3.imp_right ?_⟩
    rintro ⟨h, k', blk₀, hc', hk', hl'⟩
    refine ⟨h, k', ?_⟩
    by_cases hkk : k' = k
    · subst k'; rw [hk] at hk'; cases hk'
      exact ⟨blk', hc', if_pos rfl, hl.trans hl'⟩
    · exact ⟨blk₀, hc', (if_neg hkk).trans hk', hl'⟩
  · intro k' blk₀ hk'
    rw [setH_heap] at hk'
    split at hk'
    · subst k'; exact hi.owned k blk hk
    · exact hi.owned k' blk₀ hk'
  · intro k' (hk' : p.next ≤ k')
    rw [setH_heap, if_neg (Nat.ne_of_gt (Nat.lt_of_lt_of_le (hi.lt_next hk) hk'))]
    exact hi.fresh k' hk'
  · rw [setH_heap, if_neg]
    intro hkk; subst k'
    exact hx (hi.uniq x o t s k hxt ho hc' hc)

theorem Inv.destroy (hi : Inv p) (ho : p.objs o = some s) :
    Inv ((p.free s.chars).setO o none) ∧ ∀ x, x ≠ o → abs ((p.free s.chars).setO o none) x = abs p x := by
  have keep : ∀ x t k, x ≠ o → p.objs x = some t → t.chars = .heap k → (p.free s.chars).heap k = p.heap k := by
    intro x t k hx hxt hc
    rw [free_heap, if_neg]
    exact fun h => hx (hi.uniq x o t s k hxt ho hc h)
  have old : ∀ x t, ((p.free s.chars).setO o none).objs x = some t → x ≠ o ∧ p.objs x = some t := by
    intro x t hx
    rw [setO_objs, free_objs] at hx
    split at hx
    · cases hx
    · exact ⟨‹_›, hx⟩
  refine ⟨⟨?_, ?_, ?_, ?_⟩, fun x hx => abs_frame hi x (by rw [setO_objs, if_neg hx, free_objs]) (fun t k => keep x t k hx)⟩
  · intro x t hx
    obtain ⟨hxo, hx⟩ := old x t hx
    exact (hi.obj x t hx).mono fun k hc => keep x t k hxo hx hc
  · intro o₁ o₂ s₁ s₂ k h1 h2 c1 c2
    exact hi.uniq o₁ o₂ s₁ s₂ k (old _ _ h1).2 (old _ _ h2).2 c1 c2
  · intro k blk hk
    rw [setO_heap, free_heap] at hk
    split at hk
    · cases hk
    · rename_i hsk
      obtain ⟨x, t, hx, hc⟩ := hi.owned k blk hk
      have hxo : x ≠ o := by
        intro h; subst x; rw [ho] at hx; cases hx; exact hsk hc
      exact ⟨x, t, by rw [setO_objs, if_neg hxo, free_objs, hx], hc⟩
  · intro k hk
    rw [setO_next, free_next] at hk
    rw [setO_heap, free_heap]
    split
    · rfl
    · exact hi.fresh k hk

theorem Inv.regrow (hi : Inv p) (ho : p.objs o = some s) {blk : List Nat}
    (hc' : s'.chars = .heap p.next) (hst : s'.stack.length = stackStringSize) (hsz : s'.size ≤ s'.alloc)
    (ha : stackStringSize < s'.alloc) (hl : blk.length = s'.alloc)
    (hp' : p' = (((p.setH p.next (some blk)).bump).free s.chars).setO o (some s')) :
    Upd p p' o s' ∧ content p' s' = blk := by
  subst hp'
  have keep : ∀ x t k, x ≠ o → p.objs x = some t → t.chars = .heap k →
      (((p.setH p.next (some blk)).bump).free s.chars).heap k = p.heap k := by
    intro x t k hx hxt hc
    obtain ⟨b, hb, _⟩ := hi.block hxt hc
    rw [free_heap, if_neg (fun h => hx (hi.uniq x o t s k hxt ho hc h)), bump_heap, setH_heap,
      if_neg (Nat.ne_of_lt (hi.lt_next hb))]
  have hsn : s.chars ≠ .heap p.next := by
    intro h
    obtain ⟨b, hb, _⟩ := hi.block ho h
    exact Nat.lt_irrefl _ (hi.lt_next hb)
  have hnew : ((((p.setH p.next (some blk)).bump).free s.chars).setO o (some s')).heap p.next = some blk := by
    rw [setO_heap, free_heap, if_neg hsn, bump_heap, setH_heap, if_pos rfl]
  refine ⟨⟨⟨?_, ?_, ?_, ?_⟩, if_pos rfl, fun x hx => abs_frame hi x ?_ (fun t k => keep x t k hx), free_failAt _ _⟩,
    content_heap hc' hnew⟩
  · intro x t hx
    rw [setO_objs, free_objs, bump_objs, setH_objs] at hx
    split at hx
    · cases hx
      exact ⟨hst, hsz, Or.inr ⟨ha, p.next, blk, hc', hnew, hl⟩⟩
    · exact (hi.obj x t hx).mono fun k hc => keep x t k ‹_› hx hc
  · intro o₁ o₂ s₁ s₂ k h1 h2 c1 c2
    -- only `o` points to the new block; whoever points to another block pointed to it before
    have who : ∀ x t, ((((p.setH p.next (some blk)).bump).free s.chars).setO o (some s')).objs x = some t → t.chars = .heap k →
        if k = p.next then x = o else p.objs x = some t := by
      intro x t hx hc
      rw [setO_objs, free_objs, bump_objs, setH_objs] at hx
      split at hx
      · cases hx
        rw [hc'] at hc; cases hc
        rwa [if_pos rfl]
      · obtain ⟨b, hb, _⟩ := hi.block hx hc
        rwa [if_neg (Nat.ne_of_lt (hi.lt_next hb))]
    have w1 := who o₁ s₁ h1 c1
    have w2 := who o₂ s₂ h2 c2
    by_cases hk : k = p.next
    · rw [if_pos hk] at w1 w2
      rw [w1, w2]
    · rw [if_neg hk] at w1 w2
      exact hi.uniq o₁ o₂ s₁ s₂ k w1 w2 c1 c2
  · intro k b hk
    -- one conditional at a time: `split` on the nested one is slow to check
    rw [setO_heap, free_heap] at hk
    split at hk
    · cases hk
    · rename_i hsk
      rw [bump_heap, setH_heap] at hk
      split at hk
      · subst k
        exact ⟨o, s', if_pos rfl, hc'⟩
      · obtain ⟨x, t, hx, hc⟩ := hi.owned k b hk
        have hxo : x ≠ o := by
          intro h; subst x; rw [ho] at hx; cases hx; exact hsk hc
        exact ⟨x, t, by rw [setO_objs, if_neg hxo, free_objs, bump_objs, setH_objs, hx], hc⟩
  · intro k hk
    rw [setO_next, free_next, bump_next, setH_next] at hk
    rw [setO_heap, free_heap]
    split
    · rfl
    · rw [bump_heap, setH_heap, if_neg (Nat.ne_of_gt (Nat.lt_of_succ_le hk))]
      exact hi.fresh k (Nat.le_of_succ_le hk)
  · rw [setO_objs, if_neg hx, free_objs, bump_objs, setH_objs]

theorem Inv.transfer (hi : Inv p) {k : Nat} (hd : p.objs o = none) (hs : p.objs src = some mv)
    (hc : mv.chars = .heap k) (hc' : s'.chars = .stack src) (hok : ObjOk p src s')
    (hp' : p' = (p.setO o (some mv)).setO src (some s')) :
    Inv p' ∧ ∀ x, x ≠ o → x ≠ src → abs p' x = abs p x := by
  subst hp'
  have hne : o ≠ src := by intro h; rw [h, hs] at hd; cases hd
  refine ⟨⟨?_, ?_, ?_, hi.fresh⟩, fun x hxo hxs => abs_frame hi x (by rw [setO_objs, if_neg hxs, setO_objs, if_neg hxo]) (fun _ _ _ _ => rfl)⟩
  · intro x t hx
    rw [setO_objs] at hx
    split at hx
    · subst x; cases hx; exact hok
    · rw [setO_objs] at hx
      split at hx
      · cases hx
        obtain ⟨h1, h2, h3⟩ := hi.obj src mv hs
        exact ⟨h1, h2, Or.inr (h3.resolve_left fun h => by rw [h.2] at hc; cases hc)⟩
      · exact hi.obj x t hx
  · intro o₁ o₂ s₁ s₂ k' h1 h2 c1 c2
    -- whoever points to a block now is not `src`, and pointed to it before, `o` standing in for `src`
    have who : ∀ x t, ((p.setO o (some mv)).setO src (some s')).objs x = some t → t.chars = .heap k' →
        x ≠ src ∧ p.objs (if x = o then src else x) = some t := by
      intro x t hx hct
      rw [setO_objs] at hx
      split at hx
      · cases hx; rw [hc'] at hct; cases hct
      · rename_i hxs
        refine ⟨hxs, ?_⟩
        rw [setO_objs] at hx
        split at hx
        · cases hx; rwa [if_pos ‹x = o›]
        · rwa [if_neg ‹¬x = o›]
    obtain ⟨n1, w1⟩ := who o₁ s₁ h1 c1
    obtain ⟨n2, w2⟩ := who o₂ s₂ h2 c2
    have e := hi.uniq _ _ s₁ s₂ k' w1 w2 c1 c2
    split at e <;> split at e
    · rw [‹o₁ = o›, ‹o₂ = o›]
    · exact absurd e.symm n2
    · exact absurd e n1
    · exact e
  · intro k' blk hk
    obtain ⟨x, t, hx, hct⟩ := hi.owned k' blk hk
    have hxo : x ≠ o := by
      intro h; rw [h, hd] at hx; cases hx
    by_cases hxs : x = src
    · subst x; rw [hs] at hx; cases hx
      exact ⟨o, mv, by rw [setO_objs, if_neg hne, setO_objs, if_pos rfl], hct⟩
    · exact ⟨x, t, by rw [setO_objs, if_neg hxs, setO_objs, if_neg hxo, hx], hct⟩

theorem content_setO (ho : p.objs o = some s) (hc : s'.chars = s.chars) (hst : s'.stack = s.stack) :
    content (p.setO o (some s')) s' = content p s := by
  simp only [content, hc]
  cases s.chars with
  | heap k => rfl
  | stack o' =>
    simp only [setO_objs]
    by_cases e : o' = o
    · rw [if_pos e, e, ho]; exact hst
    · rw [if_neg e]

/-- `m_size = n` -/
theorem setSize_ok (hi : Inv p) (ho : p.objs o = some s) (n : Nat) (hn : n ≤ s.alloc) :
    Upd p (p.setO o (some { s with size := n })) o { s with size := n } ∧
    content (p.setO o (some { s with size := n })) { s with size := n } = content p s := by
  obtain ⟨h1, _, h3⟩ := hi.obj o s ho
  exact ⟨hi.setO_fields ho rfl ⟨h1, hn, h3⟩, content_setO ho rfl rfl⟩

theorem Inv.writeUnits (hi : Inv p) (ho : p.objs o = some s) (at_ : Nat) (us : List Nat)
    (hroom : at_ + us.length ≤ s.alloc) :
    ∃ p' s', writeUnits s.chars at_ us p = .ok () p' ∧ Upd p p' o s' ∧ s'.alloc = s.alloc ∧ s'.size = s.size ∧
      content p' s' = overwrite (content p s) at_ us := by
  obtain ⟨h1, h2, h3⟩ := hi.obj o s ho
  cases hi.mode ho with
  | stack ha hc =>
    have hfit : at_ + us.length ≤ s.stack.length := by rw [h1, ← ha]; exact hroom
    have hw := writeUnits_stack at_ us ho hfit
    rw [← hc] at hw
    refine ⟨_, _, hw, hi.setO_fields ho rfl ⟨(overwrite_length _ _ _ hfit).trans h1, h2, h3⟩, rfl, rfl, ?_⟩
    rw [content_stack ho hc]
    exact content_stack (o := o) (if_pos rfl) hc
  | heap k blk ha hc hk hl =>
    have hfit : at_ + us.length ≤ blk.length := by rw [hl]; exact hroom
    have hw := writeUnits_heap at_ us hk hfit
    rw [← hc] at hw
    refine ⟨_, s, hw, hi.setH ho hc hk (overwrite_length blk us at_ hfit), rfl, rfl, ?_⟩
    rw [content_heap hc hk]
    exact content_heap hc (if_pos rfl)

theorem storeAtEnd_ok (hi : Inv p) (ho : p.objs o = some s) (bytes : List Nat)
    (hroom : s.size + bytes.length ≤ s.alloc) {b : List Nat} (hb : abs p o = some b) :
    ∃ p' s', storeAtEnd o bytes p = .ok () p' ∧ Upd p p' o s' ∧ s'.alloc = s.alloc ∧ s'.size = s.size + bytes.length ∧
      abs p' o = some (b ++ bytes) := by
  rw [abs_live ho] at hb; cases hb
  obtain ⟨p₁, s₁, hw, u₁, ha₁, hs₁, hc₁⟩ := hi.writeUnits ho s.size bytes hroom
  obtain ⟨u₂, hc₂⟩ := setSize_ok u₁.inv u₁.obj (s₁.size + bytes.length) (by rw [hs₁, ha₁]; exact hroom)
  refine ⟨_, _, ?_, u₁.trans u₂, ha₁, by rw [hs₁], ?_⟩
  · simp only [storeAtEnd, bind_apply, getObj_eq ho, hw, getObj_eq u₁.obj, setObj_eq]
  · rw [abs_live u₂.obj, hc₂, hc₁, hs₁]
    exact congrArg some (overwrite_take_end _ _ _ ((hi.content_length ho).symm ▸ hi.sizeLe ho))

theorem setH_bump_setH (p : Pool) (k : Nat) (a b : Option (List Nat)) : (p.setH k a).bump.setH k b = (p.setH k b).bump := by
  simp only [Pool.setH, Pool.bump]; congr; funext x; split <;> rfl

theorem expand_spec (hi : Inv p) (ho : p.objs o = some s) (added : Nat) :
    (∃ p' s', expandBuffer o added p = .ok () p' ∧ Upd p p' o s' ∧ abs p' o = abs p o ∧ s'.size = s.size ∧
        s.size + added ≤ s'.alloc ∧ (s.size + added ≤ s.alloc → s'.alloc = s.alloc))
    ∨ (expandBuffer o added p = .throw .badAlloc { p with allocs := p.allocs + 1 } ∧ p.failAt = some (p.allocs + 1) ∧
        s.alloc < s.size + added) := by
  rw [expandBuffer, bind_apply, getObj_eq ho]
  dsimp only
  by_cases hneed : s.size + added > s.alloc
  · have hcap := hi.capLe ho
    obtain ⟨big, hg, hb1, hb2⟩ := growLoop_spec (s.size + added) (s.size + added + 1) s.alloc
      (Nat.lt_of_lt_of_le cap_pos hcap) (Nat.succ_pos _) (Nat.lt_add_left _ (Nat.lt_succ_self _))
    by_cases hfail : p.failAt = some (p.allocs + 1)
    · refine Or.inr ⟨?_, hfail, hneed⟩
      simp only [if_pos hneed, bind_apply, hg, pure_apply, newBlock_fail _ hfail]
    · have hst := hi.stackLen ho
      have hcl := hi.content_length ho
      -- the blocks of `p` are still there after the allocation and after the copy
      have hq : ∀ (b : Option (List Nat)) k blk, p.heap k = some blk → (p.setH p.next b).bump.heap k = some blk := by
        intro b k blk hk
        rw [bump_heap, setH_heap, if_neg (Nat.ne_of_lt (hi.lt_next hk)), hk]
      have hr := hi.readUnits ho (Nat.le_refl _) (q := (p.setH p.next (some (List.replicate big 0xCD))).bump) ho (hq _)
      rw [List.take_of_length_le (Nat.le_of_eq hcl)] at hr
      have hfit : 0 + (content p s).length ≤ (List.replicate big 0xCD).length := by
        rw [List.length_replicate, hcl, Nat.zero_add]; exact Nat.le_of_lt hb2
      have hw := writeUnits_heap (p := (p.setH p.next (some (List.replicate big 0xCD))).bump) 0 (content p s)
        (by rw [bump_heap, setH_heap, if_pos rfl]) hfit
      rw [setH_bump_setH] at hw
      have hd := hi.deleteIfHeap (α := Unit) ho (hq (some (overwrite (List.replicate big 0xCD) 0 (content p s))))
      simp only [if_pos hneed, bind_apply, hg, pure_apply, newBlock_eq _ hfail, hr, hw, hd, setObj_eq]
      obtain ⟨u, hcont⟩ := hi.regrow ho (s' := { s with chars := .heap p.next, alloc := big })
        (blk := overwrite (List.replicate big 0xCD) 0 (content p s)) rfl hst
        (Nat.le_trans (Nat.le_add_right _ _) hb1) (Nat.lt_of_le_of_lt hcap hb2)
        ((overwrite_length _ _ _ hfit).trans List.length_replicate) rfl
      refine Or.inl ⟨_, _, rfl, u, ?_, rfl, hb1, fun h => absurd h (Nat.not_le.mpr hneed)⟩
      rw [abs_live ho, abs_live u.obj, hcont]
      exact congrArg some (overwrite_zero_take _ _ _ (hcl.symm ▸ hi.sizeLe ho))
  · rw [if_neg hneed]
    exact Or.inl ⟨p, s, rfl, .refl hi ho, rfl, rfl, Nat.not_lt.mp hneed, fun _ => rfl⟩

theorem append_spec (hi : Inv p) (ho : p.objs o = some s) {b : List Nat} (hb : abs p o = some b) (bytes : List Nat) :
    (∃ p' s', append o bytes p = .ok () p' ∧ Upd p p' o s' ∧ abs p' o = some (b ++ bytes) ∧
        s'.size = s.size + bytes.length ∧ (s.size + bytes.length ≤ s.alloc → s'.alloc = s.alloc))
    ∨ (append o bytes p = .throw .badAlloc { p with allocs := p.allocs + 1 } ∧ p.failAt = some (p.allocs + 1) ∧
        s.alloc < s.size + bytes.length) := by
  by_cases h0 : bytes.length = 0
  · refine Or.inl ⟨p, s, by simp [append, h0], .refl hi ho, by rw [hb, List.eq_nil_of_length_eq_zero h0, List.append_nil],
      by rw [h0]; rfl, fun _ => rfl⟩
  · have hrun : append o bytes = (expandBuffer o bytes.length >>= fun _ => storeAtEnd o bytes) := by
      simp [append, h0]
    rw [hrun, bind_apply]
    rcases expand_spec hi ho bytes.length with ⟨p₁, s₁, h1, u₁, ha₁, hs₁, hr₁, hk₁⟩ | ⟨h1, h2, h3⟩
    · obtain ⟨p₂, s₂, h2, u₂, ha₂, hs₂, hb₂⟩ := storeAtEnd_ok u₁.inv u₁.obj bytes (by rw [hs₁]; exact hr₁) (ha₁.trans hb)
      exact Or.inl ⟨p₂, s₂, by rw [h1]; exact h2, u₁.trans u₂, hb₂, by rw [hs₂, hs₁], fun h => ha₂.trans (hk₁ h)⟩
    · exact Or.inr ⟨by rw [h1], h2, h3⟩

theorem append_room (hi : Inv p) (ho : p.objs o = some s) {b : List Nat} (hb : abs p o = some b)
    (bytes : List Nat) (hroom : s.size + bytes.length ≤ s.alloc) :
    ∃ p' s', append o bytes p = .ok () p' ∧ Upd p p' o s' ∧ abs p' o = some (b ++ bytes) ∧
      s'.size = s.size + bytes.length ∧ s'.alloc = s.alloc := by
  rcases append_spec hi ho hb bytes with ⟨p', s', h1, u, h2, h3, h4⟩ | ⟨_, _, h⟩
  · exact ⟨p', s', h1, u, h2, h3, h4 hroom⟩
  · exact absurd hroom (Nat.not_le.mpr h)

theorem appendChar_eq_append (o ch n : Nat) : appendChar o ch n = append o (List.replicate n ch) := by
  simp [appendChar, append]

theorem shrink_ok (hi : Inv p) (ho : p.objs o = some s) {b : List Nat} (hb : abs p o = some b) (n : Nat) (hn : n ≤ s.size) :
    Inv (p.setO o (some { s with size := n })) ∧ abs (p.setO o (some { s with size := n })) = (abs p).set o (some (b.take n)) := by
  obtain ⟨u, hc⟩ := setSize_ok hi ho n (Nat.le_trans hn (hi.sizeLe ho))
  refine ⟨u.inv, u.abs_eq ?_⟩
  rw [abs_live ho] at hb; cases hb
  rw [abs_live u.obj, hc, List.take_take, Nat.min_eq_left hn]

/-- the fields of a default-constructed stream (whatever its in-object array holds) -/
def freshObj (o : Nat) (stack : List Nat) : Obj := { chars := .stack o, alloc := stackStringSize, size := 0, stack := stack }

theorem freshObj_ok (p : Pool) (o : Nat) {st : List Nat} (hst : st.length = stackStringSize) : ObjOk p o (freshObj o st) :=
  ⟨hst, Nat.zero_le _, Or.inl ⟨rfl, rfl⟩⟩

theorem abs_fresh {st : List Nat} (ho : p.objs o = some (freshObj o st)) : abs p o = some [] := by
  rw [abs_live ho]; rfl

theorem movedFrom_repaired (src : Nat) (mv : Obj) : movedFrom .repaired src mv = freshObj src mv.stack := rfl

/-- what both move operations make of their target:
    `m_alloc(move.m_alloc), m_size(move.m_size); m_chars = is_heap() ? move.m_chars : m_stack; copy(m_stack, move.m_stack, …)` -/
def movedTo (o : Nat) (mv : Obj) : Obj :=
  { chars := if mv.isHeap then mv.chars else .stack o, alloc := mv.alloc, size := mv.size, stack := mv.stack }

theorem movedTo_stack (o : Nat) (h : mv.isHeap = false) : movedTo o mv = { mv with chars := .stack o } := by
  rw [movedTo, h]; rfl

theorem movedTo_heap (o : Nat) (h : mv.isHeap = true) : movedTo o mv = mv := by
  rw [movedTo, h]; rfl

theorem dtor_spec (hi : Inv p) (ho : p.objs o = some s) :
    ∃ p', dtor o p = .ok () p' ∧ Inv p' ∧ abs p' = (abs p).set o none ∧ p'.failAt = p.failAt := by
  obtain ⟨hinv, hfr⟩ := hi.destroy ho
  refine ⟨_, ?_, hinv, eq_set hfr (abs_none (if_pos rfl)), free_failAt _ _⟩
  simp only [dtor, bind_apply, getObj_eq ho, hi.deleteIfHeap ho (fun _ _ h => h), dropObj_eq]

theorem setO_setO (p : Pool) (o : Nat) (a b : Option Obj) : (p.setO o a).setO o b = p.setO o b := by
  simp only [Pool.setO]; congr; funext x; split <;> rfl

/-- what both (repaired) move operations do once the target holds nothing -/
theorem transfer_ok (hi : Inv p) (hd : p.objs o = none) (hs : p.objs src = some mv) {b : List Nat} (hb : abs p src = some b)
    (hp' : p' = (p.setO o (some (movedTo o mv))).setO src (some (freshObj src mv.stack))) :
    Inv p' ∧ abs p' = ((abs p).set o (some b)).set src (some []) := by
  subst hp'
  have hne : o ≠ src := by intro h; rw [h, hs] at hd; cases hd
  have hlen := hi.stackLen hs
  have hsz := hi.sizeLe hs
  rw [abs_live hs] at hb; cases hb
  cases hi.mode hs with
  | stack ha hc hh =>
    rw [movedTo_stack o hh]
    have u₁ := hi.create (s' := { mv with chars := .stack o }) hd rfl ⟨hlen, hsz, Or.inl ⟨ha, rfl⟩⟩
    have u₂ := u₁.inv.setO_fields (s' := freshObj src mv.stack) ((if_neg (Ne.symm hne)).trans hs) hc.symm (freshObj_ok _ src hlen)
    refine ⟨u₂.inv, eq_set₂ (fun x hxo hxs => (u₂.frame x hxs).trans (u₁.frame x hxo)) ?_ (abs_fresh u₂.obj)⟩
    rw [u₂.frame o hne, abs_live u₁.obj, content_stack u₁.obj rfl, content_stack hs hc]
  | heap k blk ha hc hk hl hh =>
    rw [movedTo_heap o hh]
    obtain ⟨i, f⟩ := hi.transfer hd hs hc (s' := freshObj src mv.stack) rfl (freshObj_ok p src hlen) rfl
    have hk' : ((p.setO o (some mv)).setO src (some (freshObj src mv.stack))).heap k = some blk := hk
    refine ⟨i, eq_set₂ f ?_ (abs_fresh (if_pos rfl))⟩
    rw [abs_live ((if_neg hne).trans (if_pos rfl)), content_heap hc hk', content_heap hc hk]

theorem moveCtor_spec (hi : Inv p) (hd : p.objs o = none) (hs : p.objs src = some mv)
    {b : List Nat} (hb : abs p src = some b) :
    ∃ p', moveCtor .repaired o src p = .ok () p' ∧ Inv p' ∧ abs p' = ((abs p).set o (some b)).set src (some []) ∧
      p'.failAt = p.failAt ∧ p'.objs src = some (freshObj src mv.stack) := by
  obtain ⟨h1, h2⟩ := transfer_ok hi hd hs hb rfl
  refine ⟨_, ?_, h1, h2, rfl, if_pos rfl⟩
  simp only [moveCtor, bind_apply, requireDead_eq hd, getObj_eq hs, setObj_eq, movedFrom_repaired]
  rfl

theorem moveAssign_spec {a : Obj} (hi : Inv p) (ho : p.objs o = some a) (hs : p.objs src = some mv)
    (hne : o ≠ src) {b : List Nat} (hb : abs p src = some b) :
    ∃ p', moveAssign .repaired o src p = .ok () p' ∧ Inv p' ∧ abs p' = ((abs p).set o (some b)).set src (some []) ∧
      p'.failAt = p.failAt ∧ p'.objs src = some (freshObj src mv.stack) := by
  -- the target gives its block back first; the pool without the target satisfies the invariant
  obtain ⟨h1, f1⟩ := hi.destroy ho
  have hs1 : (p.free a.chars).objs src = some mv := by rw [free_objs, hs]
  obtain ⟨h3, h4⟩ := transfer_ok h1 (if_pos rfl) ((if_neg (Ne.symm hne)).trans hs1) ((f1 src (Ne.symm hne)).trans hb) rfl
  rw [setO_setO] at h3 h4
  refine ⟨_, ?_, h3, ?_, free_failAt _ _, if_pos rfl⟩
  · simp only [moveAssign, bind_apply, getObj_eq ho, hi.deleteIfHeap ho (fun _ _ h => h), getObj_eq hs1, setObj_eq, movedFrom_repaired]
    rfl
  · rw [h4, eq_set f1 (abs_none (if_pos rfl)), set_set]

theorem toString_spec (hi : Inv p) (ho : p.objs o = some s) {b : List Nat} (hb : abs p o = some b) (u : Bool) (m : Mode) :
    toString o u m p = .ok (toStringOf b u m) p := by
  rw [abs_live ho] at hb; cases hb
  simp only [toString, bind_apply, getObj_eq ho, hi.readUnits ho (hi.sizeLe ho) ho (fun _ _ h => h), pure_apply]

theorem observe_spec (hi : Inv p) (ho : p.objs o = some s) {b : List Nat} (hb : abs p o = some b) :
    observe o p = .ok { size := b.length, bytes := b, ptr := s.chars } p := by
  have hbl := hi.shows_length ho hb
  rw [abs_live ho] at hb; cases hb
  simp only [observe, bind_apply, getObj_eq ho, hi.readUnits ho (hi.sizeLe ho) ho (fun _ _ h => h), pure_apply, hbl]

theorem inv_allocs (hi : Inv p) (n : Nat) : Inv { p with allocs := n } :=
  ⟨hi.obj, hi.uniq, hi.owned, hi.fresh⟩
theorem abs_allocs (p : Pool) (n : Nat) : abs { p with allocs := n } = abs p := rfl

def Sound (p : Pool) (st' : ByteLog.State) (r : Res Unit) : Prop :=
  (∃ p', r = .ok () p' ∧ Inv p' ∧ abs p' = st' ∧ p'.failAt = p.failAt)
  ∨ (∃ p', r = .throw .unicodeError p' ∧ Inv p' ∧ abs p' = abs p ∧ st' = abs p ∧ p'.failAt = p.failAt)
  ∨ (∃ p', r = .throw .badAlloc p' ∧ Inv p' ∧ p.failAt ≠ none ∧ p'.failAt = p.failAt ∧ abs p' = abs p)

theorem Sound.ok (hr : r = .ok () p') (hi : Inv p') (ha : abs p' = st') (hf : p'.failAt = p.failAt) : Sound p st' r :=
  Or.inl ⟨p', hr, hi, ha, hf⟩

theorem Sound.upd {v : Option (List Nat)} (hr : r = .ok () p') (u : Upd p p' o s') (hv : abs p' o = v) :
    Sound p ((abs p).set o v) r :=
  .ok hr u.inv (u.abs_eq hv) u.failAt

theorem Sound.rejected (hi : Inv p) (hr : r = .throw .unicodeError p) (hst : st' = abs p) : Sound p st' r :=
  Or.inr (Or.inl ⟨p, hr, hi, rfl, hst, rfl⟩)

theorem Sound.badAlloc (hi : Inv p) (hf : p.failAt = some (p.allocs + 1))
    (hr : r = .throw .badAlloc { p with allocs := p.allocs + 1 }) : Sound p st' r :=
  Or.inr (Or.inr ⟨_, hr, inv_allocs hi _, by rw [hf]; nofun, rfl, rfl⟩)

theorem append_sound (hi : Inv p) (ho : p.objs o = some s) {b : List Nat} (hb : abs p o = some b) (bytes : List Nat) :
    Sound p ((abs p).set o (some (b ++ bytes))) (append o bytes p) := by
  rcases append_spec hi ho hb bytes with ⟨p', s', h1, u, hv, _⟩ | ⟨h1, h2, _⟩
  · exact .upd h1 u hv
  · exact .badAlloc hi h2 h1

theorem ctor_sound (hi : Inv p) (hd : p.objs o = none) : Sound p ((abs p).set o (some [])) (ctor o p) := by
  have u := hi.create (s' := freshObj o (List.replicate stackStringSize 0xCD)) hd rfl (freshObj_ok p o List.length_replicate)
  exact .upd (by simp only [ctor, bind_apply, requireDead_eq hd, setObj_eq]; rfl) u (abs_fresh u.obj)

theorem truncate_sound (hi : Inv p) (ho : p.objs o = some s) {b : List Nat} (hb : abs p o = some b) (n : Nat) :
    Sound p ((abs p).set o (some (b.take n))) (truncate o n p) := by
  have hbl := hi.shows_length ho hb
  by_cases h : n < s.size
  · obtain ⟨h1, h2⟩ := shrink_ok hi ho hb n (Nat.le_of_lt h)
    exact .ok (by simp only [truncate, bind_apply, getObj_eq ho, if_pos h, setObj_eq]) h1 h2 rfl
  · rw [List.take_of_length_le (hbl.symm ▸ Nat.not_lt.mp h), set_same _ _ _ hb]
    exact .ok (by simp [truncate, getObj_eq ho, h]) hi rfl rfl

theorem erase_sound (hi : Inv p) (ho : p.objs o = some s) {b : List Nat} (hb : abs p o = some b) (n : Nat) :
    Sound p ((abs p).set o (some (b.take (b.length - n)))) (erase o n p) := by
  have hbl := hi.shows_length ho hb
  rw [hbl]
  by_cases h : n < s.size
  · obtain ⟨h1, h2⟩ := shrink_ok hi ho hb (s.size - n) (Nat.sub_le _ _)
    exact .ok (by simp only [erase, bind_apply, getObj_eq ho, if_pos h, setObj_eq]) h1 h2 rfl
  · obtain ⟨h1, h2⟩ := shrink_ok hi ho hb 0 (Nat.zero_le _)
    rw [Nat.sub_eq_zero_of_le (Nat.not_lt.mp h)]
    exact .ok (by simp only [erase, bind_apply, getObj_eq ho, if_neg h, setObj_eq]) h1 h2 rfl

/-- `operator<<` of a number (repaired): room for sign and digits is made first, so a failed allocation leaves
    every stream as it was -/
theorem appendNum_sound (hi : Inv p) (ho : p.objs o = some s) {b : List Nat} (hb : abs p o = some b)
    (neg : Bool) (ds : List Nat) :
    Sound p ((abs p).set o (some (b ++ ((if neg then [45] else []) ++ ds)))) (appendNum o neg ds p) := by
  cases neg with
  | false =>
    have hrun : appendNum o false ds = append o ds := by simp [appendNum]
    rw [hrun]
    exact append_sound hi ho hb ds
  | true =>
    have hrun : appendNum o true ds = (expandBuffer o (ds.length + 1) >>= fun _ => append o [45] >>= fun _ => append o ds) := by
      simp [appendNum, appendChar_eq_append]
    rw [hrun, bind_apply]
    rcases expand_spec hi ho (ds.length + 1) with ⟨p₁, s₁, h1, u₁, ha₁, hs₁, hr₁, _⟩ | ⟨h1, h2, _⟩
    · -- sign and digits fit, so neither append allocates
      obtain ⟨p₂, s₂, h2, u₂, ha₂, hs₂, hk₂⟩ := append_room u₁.inv u₁.obj (ha₁.trans hb) [45]
        (by rw [hs₁, List.length_singleton]; omega)
      obtain ⟨p₃, s₃, h3, u₃, ha₃, _⟩ := append_room u₂.inv u₂.obj ha₂ ds
        (by rw [hs₂, hk₂, hs₁, Nat.add_assoc, Nat.add_comm _ ds.length]; exact hr₁)
      refine .upd (by rw [h1]; simp only [bind_apply, h2, h3]) ((u₁.trans u₂).trans u₃) ?_
      rw [ha₃, List.append_assoc]; rfl
    · exact .badAlloc hi h2 (by rw [h1])

theorem append_nil_set {st : ByteLog.State} {b : List Nat} (hb : st o = some b) : st.set o (some (b ++ [])) = st := by
  rw [List.append_nil]; exact set_same _ _ _ hb

/-- the allocation of a temporary in front of `rest` -/
theorem Sound.tick {rest : M Unit} (c : Prop) [Decidable c] (hi : Inv p)
    (h : ∀ n, Sound { p with allocs := n } st' (rest { p with allocs := n })) :
    Sound p st' ((if c then tickAlloc >>= fun _ => rest else rest) p) := by
  by_cases hc : c
  · by_cases hfail : p.failAt = some (p.allocs + 1)
    · exact .badAlloc hi hfail (by simp only [if_pos hc, bind_apply, tickAlloc, if_pos hfail])
    · simp only [if_pos hc, bind_apply, tickAlloc, if_neg hfail]
      exact h _
  · rw [if_neg hc]
    exact h p.allocs

theorem appendText_sound (hi : Inv p) (ho : p.objs o = some s) {b : List Nat} (hb : abs p o = some b)
    (e : Utf.Enc) (m : Mode) (xs : List Nat) (hne : e ≠ .utf8) (hu : UnitsLt (Lemmas.Utf.unitBound e) xs) (hlen : xs.length < hugeBufferSize) :
    Sound p ((abs p).set o (some (b ++ (textRendering e m xs).getD []))) (appendText o e m (some xs) p) := by
  simp only [appendText, Lemmas.Utf.convert_eq_reference e .utf8 hne m false xs hu hlen]
  refine .tick _ hi fun n => ?_
  cases h : Unicode.refSteps e .utf8 m false (Unicode.seg e xs) with
  | some out =>
    have hr : Unicode.reference e .utf8 m false xs = .ok out := by simp [Unicode.reference, h]
    rw [hr, show textRendering e m xs = some out by simp [textRendering, hr]]
    exact append_sound (inv_allocs hi n) ho hb out
  | none =>
    have hr : Unicode.reference e .utf8 m false xs = .throw .unicodeError := by simp [Unicode.reference, h]
    rw [hr, show textRendering e m xs = none by simp [textRendering, hr]]
    exact .rejected (inv_allocs hi n) rfl (append_nil_set hb)

theorem step_sound (hi : Inv p) (op : Op) (hwf : op.wf) (hok : ByteLog.ok (abs p) op.toSpec = true) :
    Sound p (ByteLog.step (abs p) op.toSpec) (op.run .repaired p) := by
  cases op with
  | ctor o =>
    exact ctor_sound hi (dead_of_abs hok)
  | dtor o =>
    obtain ⟨s, b, ho, hb⟩ := live_of_abs hok
    obtain ⟨p', h1, h2, h3, h4⟩ := dtor_spec hi ho
    exact .ok h1 h2 h3 h4
  | moveCtor o src =>
    simp only [Op.toSpec, ByteLog.ok, Bool.and_eq_true] at hok
    obtain ⟨s, b, hs, hb⟩ := live_of_abs hok.2
    obtain ⟨p', h1, h2, h3, h4, _⟩ := moveCtor_spec hi (dead_of_abs hok.1) hs hb
    simp only [Op.toSpec, ByteLog.step, hb]
    exact .ok h1 h2 h3 h4
  | moveAssign o src =>
    simp only [Op.toSpec, ByteLog.ok, Bool.and_eq_true, bne_iff_ne, ne_eq] at hok
    obtain ⟨a, _, ho, _⟩ := live_of_abs hok.1.1
    obtain ⟨s, b, hs, hb⟩ := live_of_abs hok.1.2
    obtain ⟨p', h1, h2, h3, h4, _⟩ := moveAssign_spec hi ho hs hok.2 hb
    simp only [Op.toSpec, ByteLog.step, hb]
    exact .ok h1 h2 h3 h4
  | append o bs =>
    obtain ⟨s, b, ho, hb⟩ := live_of_abs hok
    simp only [Op.toSpec, ByteLog.step, hb]
    exact append_sound hi ho hb bs
  | appendChar o c n =>
    obtain ⟨s, b, ho, hb⟩ := live_of_abs hok
    simp only [Op.toSpec, ByteLog.step, hb, Op.run, appendChar_eq_append]
    exact append_sound hi ho hb _
  | appendText o e m us =>
    obtain ⟨s, b, ho, hb⟩ := live_of_abs (o := o) (by cases us <;> exact hok)
    cases us with
    | none =>
      simp only [Op.toSpec, ByteLog.step, hb, append_nil_set hb]
      exact .ok rfl hi rfl rfl
    | some xs =>
      simp only [Op.toSpec, ByteLog.step, hb]
      exact appendText_sound hi ho hb e m xs hwf.1 hwf.2.1 hwf.2.2
  | appendNum o neg ds =>
    obtain ⟨s, b, ho, hb⟩ := live_of_abs hok
    simp only [Op.toSpec, ByteLog.step, hb]
    exact appendNum_sound hi ho hb neg ds
  | truncate o n =>
    obtain ⟨s, b, ho, hb⟩ := live_of_abs hok
    simp only [Op.toSpec, ByteLog.step, hb]
    exact truncate_sound hi ho hb n
  | erase o n =>
    obtain ⟨s, b, ho, hb⟩ := live_of_abs hok
    simp only [Op.toSpec, ByteLog.step, hb]
    exact erase_sound hi ho hb n
  | toString o u m =>
    obtain ⟨s, b, ho, hb⟩ := live_of_abs hok
    simp only [Op.toSpec, ByteLog.step, hb, append_nil_set hb]
    exact .ok (by simp only [Op.run, bind_apply, toString_spec hi ho hb, pure_apply]) hi rfl rfl

theorem inv_init : Inv Pool.init where
  obj := by intro o s h; cases h
  uniq := by intro o₁ o₂ s₁ s₂ k h; cases h
  owned := by intro k blk h; cases h
  fresh := by intro k _; rfl

theorem step_unarmed (hi : Inv p) (hf : p.failAt = none) (op : Op) (hwf : op.wf)
    (hok : ByteLog.ok (abs p) op.toSpec = true) :
    ∃ p', (op.run .repaired p = .ok () p' ∨ op.run .repaired p = .throw .unicodeError p') ∧
      Inv p' ∧ abs p' = ByteLog.step (abs p) op.toSpec ∧ p'.failAt = none := by
  rcases step_sound hi op hwf hok with ⟨p', h1, h2, h3, h4⟩ | ⟨p', h1, h2, h3, h4, h5⟩ | ⟨p', _, _, hne, _⟩
  · exact ⟨p', Or.inl h1, h2, h3, h4.trans hf⟩
  · exact ⟨p', Or.inr h1, h2, h3.trans h4.symm, h5.trans hf⟩
  · exact absurd hf hne

theorem run_sound : ∀ (ops : List Op) (p : Pool), Inv p → p.failAt = none → HistOk (abs p) ops →
    ∃ p', runOps .repaired ops p = .ok () p' ∧ Inv p' ∧ abs p' = ByteLog.run (abs p) (ops.map Op.toSpec) ∧ p'.failAt = none := by
  intro ops
  induction ops with
  | nil => intro p hi hf _; exact ⟨p, rfl, hi, rfl, hf⟩
  | cons op rest ih =>
    rintro p hi hf ⟨hwf, hok, hrest⟩
    obtain ⟨p₁, h1, hi1, ha1, hf1⟩ := step_unarmed hi hf op hwf hok
    obtain ⟨p₂, h2, hi2, ha2, hf2⟩ := ih p₁ hi1 hf1 (by rw [ha1]; exact hrest)
    refine ⟨p₂, ?_, hi2, by rw [ha2, ha1]; rfl, hf2⟩
    rcases h1 with h1 | h1 <;> simp only [runOps, h1, h2]

theorem run_init (ops : List Op) (h : HistOk ByteLog.State.init ops) :
    ∃ p, runOps .repaired ops Pool.init = .ok () p ∧ Inv p ∧ abs p = ByteLog.run ByteLog.State.init (ops.map Op.toSpec) := by
  obtain ⟨p, h1, h2, h3, _⟩ := run_sound ops Pool.init inv_init rfl h
  exact ⟨p, h1, h2, h3⟩

theorem destroyAll_spec : ∀ (ids : List Nat) (p : Pool), Inv p →
    ∃ p', destroyAll ids p = .ok () p' ∧ Inv p' ∧ ∀ x, x ∈ ids ∨ p.objs x = none → p'.objs x = none := by
  intro ids
  induction ids with
  | nil => intro p hi; exact ⟨p, rfl, hi, fun x h => h.resolve_left nofun⟩
  | cons o rest ih =>
    intro p hi
    cases ho : p.objs o with
    | none =>
      obtain ⟨p', h1, h2, h3⟩ := ih p hi
      refine ⟨p', by simp [destroyAll, ho, h1], h2, fun x h => h3 x ?_⟩
      by_cases e : x = o
      · exact Or.inr (e ▸ ho)
      · exact h.imp_left fun h => (List.mem_cons.mp h).resolve_left e
    | some s =>
      obtain ⟨p₁, h1, hi1, ha1, _⟩ := dtor_spec hi ho
      obtain ⟨p', h2, hi2, h3⟩ := ih p₁ hi1
      refine ⟨p', by simp [destroyAll, ho, h1, h2], hi2, fun x h => h3 x ?_⟩
      -- `o` is gone after its destructor, and whatever was not there still is not
      by_cases e : x = o
      · exact Or.inr (abs_dead.mp (by rw [ha1, e, set_get]))
      · refine h.imp (fun h => (List.mem_cons.mp h).resolve_left e) fun h => abs_dead.mp ?_
        rw [ha1, set_ne _ _ e]
        exact abs_dead.mpr h

theorem destroyAll_empty (hi : Inv p) (ids : List Nat) (hall : ∀ o, p.objs o ≠ none → o ∈ ids) :
    ∃ p', destroyAll ids p = .ok () p' ∧ (∀ o, p'.objs o = none) ∧ ∀ k, p'.heap k = none := by
  obtain ⟨p', h1, h2, h3⟩ := destroyAll_spec ids p hi
  have hdead : ∀ o, p'.objs o = none := fun o =>
    h3 o (Classical.byCases (fun h : p.objs o = none => Or.inr h) fun h => Or.inl (hall o h))
  refine ⟨p', h1, hdead, fun k => ?_⟩
  cases hk : p'.heap k with
  | none => rfl
  | some blk =>
    obtain ⟨o, s, ho, _⟩ := h2.owned k blk hk
    rw [hdead o] at ho; cases ho

end StVerif.Stream

namespace StVerif.Props.C16
open StVerif.Stream StVerif.Generated StVerif.Spec

/-- what both moves leave behind, given what `moveCtor_spec` / `moveAssign_spec` say of the new pool -/
theorem moved_from_usable {p p' : Pool} {o src : Nat} {b st : List Nat} (hne : o ≠ src) (hi : Inv p')
    (ha : abs p' = ((abs p).set o (some b)).set src (some [])) (hs : p'.objs src = some (freshObj src st)) :
    IsFresh src (freshObj src st) ∧ abs p' src = some [] ∧ abs p' o = some b ∧
      (∀ bytes, p'.failAt = none → ∃ p'', append src bytes p' = .ok () p'' ∧ Inv p'' ∧ abs p'' src = some bytes) ∧
      (∃ p'', dtor src p' = .ok () p'' ∧ Inv p'') := by
  have hsrc : abs p' src = some [] := by rw [ha, set_get]
  refine ⟨⟨rfl, rfl, rfl⟩, hsrc, by rw [ha, set_ne _ _ hne, set_get], fun bytes hf => ?_, ?_⟩
  · rcases append_spec hi hs hsrc bytes with ⟨p'', _, a1, u, a3, _⟩ | ⟨_, a2, _⟩
    · exact ⟨p'', a1, u.inv, a3⟩
    · rw [hf] at a2; cases a2
  · obtain ⟨p'', a1, a2, _⟩ := dtor_spec hi hs
    exact ⟨p'', a1, a2⟩

end StVerif.Props.C16
