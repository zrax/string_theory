/-
  The outcomes of the per-argument formatters: which outcomes every `format_type` overload can
  have, and exactly when it raises the documented assertion (C10); that the string built from a
  wide-text argument is the reference transcoding (`wide_stringFrom_eq`, C10 and C11); the
  outcomes of `to_string` at the Latin-1 entry point (`toString_latin1_sat`, C10).
-/
import StVerif.Lemmas.FmtParse
import StVerif.Lemmas.UtfRef

namespace StVerif.Lemmas.Fmt
open StVerif.Fmt

/-- outside the class `c`: there the two differ in the text of an assertion that is never reached -/
theorem formatNumericU_eq_S (f : FormatSpec) (h : f.digitClass ≠ .chr) (v : Nat) :
    formatNumericU f v = formatNumericS f (v : Int) := by
  simp only [formatNumericU, formatNumericS, Int.natAbs_natCast, Int.natCast_eq_zero,
    if_neg (Int.not_lt.2 (Int.natCast_nonneg v))]
  cases hd : f.digitClass <;> first | rfl | exact absurd hd h

theorem formatNumericS_ok (f : FormatSpec) (v : Int) (h : f.digitClass ≠ .chr) : ∃ ev, formatNumericS f v = .ok ev := by
  unfold formatNumericS
  cases hd : f.digitClass <;> first | exact ⟨_, rfl⟩ | exact absurd hd h

theorem formatChar_cases (f : FormatSpec) (ch : Int) :
    ((f.minimumLength ≠ 0 ∨ f.pad ≠ 0) ∧ formatChar f ch = .assertFail charPaddingMsg) ∨
    (¬(f.minimumLength ≠ 0 ∨ f.pad ≠ 0) ∧ ∃ ev, formatChar f ch = .ok ev) := by
  unfold formatChar
  split
  · exact Or.inl ⟨‹_›, rfl⟩
  · exact Or.inr ⟨‹_›, by split <;> exact ⟨_, rfl⟩⟩

def AssertClass (w : String) : Prop :=
  w = charPaddingMsg ∨ w = libcSizeMsg

theorem wide_stringFrom_eq {src : Utf.Enc} {m : Mode} {us : List Nat} (hw : (Arg.wide src m us).WideOk) :
    Utf.stringFrom src m (some us) = Spec.Unicode.reference src .utf8 m true us := by
  obtain ⟨hsrc, hlen⟩ := hw
  rcases hsrc with ⟨rfl, hu⟩ | ⟨rfl, hu⟩
  · exact StVerif.Lemmas.Utf.convert_eq_reference .utf16 .utf8 (by decide) m true us hu hlen
  · exact StVerif.Lemmas.Utf.convert_eq_reference .utf32 .utf8 (by decide) m true us hu hlen

def CharPadded (a : Arg) (f : FormatSpec) : Prop :=
  a.IsIntegral = true ∧ f.digitClass = .chr ∧ (f.minimumLength ≠ 0 ∨ f.pad ≠ 0)

theorem formatType_cases (a : Arg) (f : FormatSpec) (hw : a.WideOk) :
    Sat (fun _ => ¬CharPadded a f) (fun e => e = .unicodeError ∧ ¬CharPadded a f)
      (fun w => (w = charPaddingMsg ∧ CharPadded a f) ∨ (w = libcSizeMsg ∧ ¬a.LibcRenders)) (formatType a f) := by
  have int : ∀ {a : Arg} {L : Prop} {ch : Int} {num : Outcome (List Event)}, a.IsIntegral = true →
      (f.digitClass ≠ .chr → ∃ ev, num = .ok ev) →
      Sat (fun _ => ¬CharPadded a f) (fun e => e = .unicodeError ∧ ¬CharPadded a f)
        (fun w => (w = charPaddingMsg ∧ CharPadded a f) ∨ (w = libcSizeMsg ∧ L))
        (if f.digitClass = .chr then formatChar f ch else num) := by
    intro a L ch num hi hnum
    split
    · rename_i hc
      rcases formatChar_cases f ch with ⟨hp, h⟩ | ⟨hp, ev, h⟩ <;> rw [h]
      · exact Or.inl ⟨rfl, hi, hc, hp⟩
      · exact fun h' => hp h'.2.2
    · rename_i hc
      obtain ⟨ev, h⟩ := hnum hc
      rw [h]; exact fun h' => hc h'.2.1
  have hs := formatNumericS_ok f
  have hu : ∀ v : Nat, f.digitClass ≠ .chr → ∃ ev, formatNumericU f v = .ok ev :=
    fun v h => formatNumericU_eq_S f h v ▸ hs v h
  have plain : ∀ {a : Arg}, a.IsIntegral = false → ¬CharPadded a f := fun hi h' => by
    have := h'.1; rw [hi] at this; cases this
  cases a with
  | sint w v => exact int rfl (hs v)
  | uint w v => exact int rfl (hu v)
  | char v => exact int rfl (hs v)
  | wchar v => exact int rfl (hs v)
  | char16 v => exact int rfl (hu v)
  | char32 v => exact int rfl (hu v)
  | char8 v =>
    -- a UTF-8 code unit is copied, not encoded: `format_char` is not called, the assertion is the same
    simp only [formatType]
    split
    · rename_i hc
      split
      · exact Or.inl ⟨rfl, rfl, hc, ‹_›⟩
      · exact fun h' => absurd h'.2.2 ‹_›
    · rename_i hc
      obtain ⟨ev, h⟩ := hu v hc
      rw [h]; exact fun h' => hc h'.2.1
  | bool b => exact plain rfl
  | str bs => exact plain rfl
  | nullStr => exact plain rfl
  | wide src m us =>
    simp only [formatType, wide_stringFrom_eq hw, Spec.Unicode.reference]
    cases Spec.Unicode.refSteps src .utf8 m true (Spec.Unicode.seg src us) with
    | some out => exact plain rfl
    | none => exact ⟨rfl, plain rfl⟩
  | float r =>
    simp only [formatType, formatFloat]
    generalize ht : r f.alwaysSigned (if f.precision ≥ 0 then some f.precision.toNat else none) f.floatClass = text
    by_cases h0 : text.length = 0
    · rw [if_pos h0]
      refine Or.inr ⟨rfl, fun hfl => ?_⟩
      have := hfl f.alwaysSigned (if f.precision ≥ 0 then some f.precision.toNat else none) f.floatClass
      rw [ht] at this
      omega
    · -- every branch behind the size assertion returns a value: fold them into one `.ok`
      rw [if_neg h0, ← apply_ite Outcome.ok, ← apply_ite Outcome.ok]
      exact plain rfl

theorem formatType_sat_all (a : Arg) (f : FormatSpec) (hw : a.WideOk) :
    Sat (fun _ => True) (· = .unicodeError) AssertClass (formatType a f) :=
  (formatType_cases a f hw).mono (fun _ _ => trivial) (fun _ => And.left)
    (fun _ h => h.elim (fun h => Or.inl h.1) (fun h => Or.inr h.1))

theorem formatType_sat (a : Arg) (f : FormatSpec) (hfl : a.LibcRenders) (hw : a.WideOk) :
    Sat (fun _ => True) (· = .unicodeError) (· = charPaddingMsg) (formatType a f) :=
  (formatType_cases a f hw).mono (fun _ _ => trivial) (fun _ => And.left)
    (fun _ h => h.elim And.left (fun h => absurd hfl h.2))

theorem formatType_assert_iff (a : Arg) (f : FormatSpec) (hfl : a.LibcRenders) (hw : a.WideOk) :
    (∃ w, formatType a f = .assertFail w) ↔ CharPadded a f := by
  have h := formatType_cases a f hw
  constructor
  · rintro ⟨w, hx⟩
    exact (h.of_assert hx).elim And.right (fun h => absurd hfl h.2)
  · intro hp
    cases hx : formatType a f with
    | ok ev => exact absurd hp (h.of_ok hx)
    | throw e => exact absurd hp (h.of_throw hx).2
    | assertFail w => exact ⟨w, rfl⟩
    | _ => rw [hx] at h; exact h.elim

theorem formattersOf_some {args : List Arg} {i : Nat} {a : Arg} (h : args[i]? = some a) (f : FormatSpec) :
    formattersOf args i f = formatType a f := by
  simp only [formattersOf, h]

theorem formattersOf_ok (args : List Arg) (E : Exc → Prop) (A : FormatSpec → String → Prop)
    (h : ∀ a ∈ args, ∀ f, Sat (fun _ => True) E (A f) (formatType a f)) :
    FormattersOk args.length (formattersOf args) E A := by
  intro id spec hid
  rw [formattersOf_some (List.getElem?_eq_getElem hid)]
  exact h _ (List.getElem_mem hid) spec

section
open StVerif.Utf StVerif.Generated

theorem fill_latin1 (m : Mode) (sb : Bool) (xs : List Nat) :
    (fill (stepCh .latin1 .utf8 m sb) xs).status = .done ∧
    (fill (stepCh .latin1 .utf8 m sb) xs).out.length = (xs.map (measureCh .latin1 .utf8)).sum := by
  induction xs with
  | nil => simp [fill]
  | cons c r ih =>
    by_cases h : c &&& 0x80 ≠ 0
    · have hs : stepCh .latin1 .utf8 m sb c = .units [0xC0 ||| ((c >>> 6) &&& 0x1F), 0x80 ||| (c &&& 0x3F)] := by
        simp [stepCh, h]
      have hm : measureCh .latin1 .utf8 c = 2 := by simp [measureCh, h]
      simp only [fill, hs, List.map_cons, List.sum_cons, hm, List.length_append, List.length_cons, List.length_nil]
      exact ⟨ih.1, by rw [ih.2]⟩
    · have hs : stepCh .latin1 .utf8 m sb c = .units [c] := by simp [stepCh, h]
      have hm : measureCh .latin1 .utf8 c = 1 := by simp [measureCh, h]
      simp only [fill, hs, List.map_cons, List.sum_cons, hm, List.length_append, List.length_cons, List.length_nil]
      exact ⟨ih.1, by rw [ih.2]⟩

/-- `string_stream::to_string(false, …)`: the Latin-1 entry point -/
theorem toString_latin1_sat (bytes : List Nat) :
    Sat (fun _ => True) (fun _ => False) (fun w => w = "String data buffer is too large" ∧ bytes.length ≥ hugeBufferSize)
      (toStringOf .latin1 bytes) := by
  -- with the result of `fill` put in first, only the size limit and the empty shortcut are left to test
  have hf := fill_latin1 .assumeValid true bytes
  simp only [toStringOf, convert, decode, Utf.measure, hf.1, hf.2, Nat.lt_irrefl, gt_iff_lt, ↓reduceIte]
  split
  · rename_i h; exact ⟨rfl, h⟩
  · split <;> trivial

end

end StVerif.Lemmas.Fmt
