/-
  Lemmas tying the public search front ends (Model/Find.lean) to the Spec (Spec/Search.lean).
-/
import StVerif.Model.Find
import StVerif.Lemmas.Search
import StVerif.Lemmas.SearchSpec
import StVerif.Lemmas.Compare
import StVerif.Lemmas.ListFacts

namespace StVerif.Search

def Needle.text : Needle → List Nat
  | .ch c => [c]
  | .cstr none => []
  | .cstr (some p) => Spec.Search.cstr p
  | .sized p => p
  | .sizedNull _ => []
  | .str s => s

def Affix.text : Affix → List Nat
  | .cstr none => []
  | .cstr (some p) => Spec.Search.cstr p
  | .str s => s

/-- the right-hand operand `starts_with` hands to `compare_n` -/
def Affix.toRhs : Affix → Compare.Rhs
  | .cstr p => .cstr p
  | .str s => .str s

def Needle.map (f : Nat → Nat) : Needle → Needle
  | .ch c => .ch (f c)
  | .cstr none => .cstr none
  | .cstr (some p) => .cstr (some (p.map f))
  | .sized p => .sized (p.map f)
  | .sizedNull n => .sizedNull n
  | .str s => .str (s.map f)

end StVerif.Search

namespace StVerif.Lemmas.Find
open StVerif.Search StVerif.Spec.Search StVerif.Lemmas.Search StVerif.Lemmas.SearchSpec
open StVerif.Compare StVerif.Lemmas.Compare

theorem strlen_le (p : List Nat) : strlen p ≤ p.length := by
  rw [strlen_eq]; unfold cstr; exact (List.takeWhile_sublist _).length_le

theorem firstOf_eq_zero_iff (p : List Nat) : firstOf p = 0 ↔ cstr p = [] := by
  cases p with
  | nil => simp [firstOf, cstr]
  | cons c rest =>
    simp only [firstOf, cstr, List.takeWhile_cons]
    by_cases hc : c = 0 <;> simp [hc]

theorem scanChar_eq_findFrom (cs : CaseMode) (c : Nat) (hay : List Nat) (off : Nat) :
    scanChar cs c hay off = findFrom cs c [] hay off := by
  induction hay generalizing off with
  | nil => rfl
  | cons h t ih =>
    unfold scanChar findFrom
    by_cases he : eqv cs h c = true
    · simp [he, prefixEq]
    · simp [he, ih]

theorem scanChar_eq_findSub (cs : CaseMode) (c : Nat) (hay : List Nat) :
    scanChar cs c hay 0 = findSub cs hay [c] := by
  simp [findSub, scanChar_eq_findFrom]

theorem findLastCharLoop_eq (cs : CaseMode) (s : List Nat) (endp c fuel start : Nat) (found : Option Nat) :
    findLastCharLoop cs s endp c fuel start found = findLastLoop cs s endp [c] fuel start found := by
  induction fuel generalizing start found with
  | zero => rfl
  | succ fuel ih =>
    unfold findLastCharLoop findLastLoop
    rw [scanChar_eq_findSub]
    generalize findSub cs _ [c] = r
    cases r <;> simp [ih]

theorem findSub_nil_hay (cs : CaseMode) (needle : List Nat) : findSub cs [] needle = none := by
  cases needle <;> rfl

theorem find__eq_idx (cs : CaseMode) (s : List Nat) (start : Nat) (needle : List Nat) :
    find_ cs s start needle = idx ((findSub cs (s.drop start) needle).map (start + ·)) := by
  unfold find_; cases findSub cs (s.drop start) needle <;> rfl

theorem find__least (cs : CaseMode) (s : List Nat) (start : Nat) (needle : List Nat) :
    Least (fun j => start ≤ j ∧ Occ cs s needle j) ((findSub cs (s.drop start) needle).map (start + ·)) :=
  Least.shift ((findSub_least cs _ needle).congr fun i => occ_drop cs s needle start i)

theorem find__neg_one (cs : CaseMode) (s : List Nat) (start : Nat) (needle : List Nat)
    (h : needle = [] ∨ s.length ≤ start) : find_ cs s start needle = -1 := by
  rw [find__eq_idx]
  rcases h with e | e
  · rw [e, findSub_nil_needle]; rfl
  · rw [List.drop_eq_nil_of_le e, findSub_nil_hay]; rfl

/-- Also for the empty needle and a start at or beyond the end, where the model of `_find` returns `-1` like the
    guards of the public members.  (In the C++ those guards are needed: `size() - start` would wrap; the model's
    `drop` does not.) -/
theorem find__isFind (cs : CaseMode) (s : List Nat) (start : Nat) (needle : List Nat) :
    IsFind cs s start needle (find_ cs s start needle) :=
  (isFind_iff ..).2 ⟨_, find__eq_idx cs s start needle, find__least cs s start needle⟩

theorem guarded_find_ (cs : CaseMode) (s : List Nat) (start : Nat) (needle : List Nat) (g : Prop) [Decidable g]
    (hg : g → needle = [] ∨ s.length ≤ start) :
    (if g then -1 else find_ cs s start needle) = find_ cs s start needle := by
  by_cases h : g
  · rw [if_pos h, find__neg_one cs s start needle (hg h)]
  · rw [if_neg h]

theorem find_eq_text (cs : CaseMode) (s : List Nat) (start : Nat) (nd : Needle) :
    find cs s start nd = find_ cs s start nd.text := by
  cases nd with
  | ch c =>
    show findChar cs s start c = find_ cs s start [c]
    unfold findChar
    rw [scanChar_eq_findSub]
    exact guarded_find_ cs s start [c] _ Or.inr
  | cstr p =>
    cases p with
    | none => rfl
    | some p =>
      show (if firstOf p = 0 ∨ start ≥ s.length then -1 else find_ cs s start (p.take (strlen p))) = find_ cs s start (cstr p)
      rw [take_strlen]
      exact guarded_find_ cs s start _ _ fun h => h.imp (firstOf_eq_zero_iff p).1 id
  | sized p => exact guarded_find_ cs s start p _ fun h => h.imp List.eq_nil_of_length_eq_zero id
  | sizedNull n => rfl
  | str n => exact guarded_find_ cs s start n _ fun h => h.imp List.eq_nil_of_length_eq_zero id

theorem findAll_eq (cs : CaseMode) (s : List Nat) (nd : Needle) : findAll cs s nd = idx (findSub cs s nd.text) := by
  rw [findAll, find_eq_text, find__eq_idx, List.drop_zero]
  cases findSub cs s nd.text with
  | none => rfl
  | some i => exact congrArg (fun n : Nat => (n : Int)) (Nat.zero_add i)

theorem findLastLoop_greatest (cs : CaseMode) (s : List Nat) (endp : Nat) (needle : List Nat)
    (fuel start : Nat) (found : Option Nat) (hfuel : endp < fuel + start)
    (hinv : Greatest (fun j => j < start ∧ Occ cs (s.take endp) needle j) found) :
    Greatest (Occ cs (s.take endp) needle) (findLastLoop cs s endp needle fuel start found) := by
  have finish : ∀ start found, Greatest (fun j => j < start ∧ Occ cs (s.take endp) needle j) found →
      (∀ j, start ≤ j → ¬ Occ cs (s.take endp) needle j) → Greatest (Occ cs (s.take endp) needle) found :=
    fun start found hinv hno => hinv.congr fun j =>
      ⟨And.right, fun hp => ⟨Nat.lt_of_not_le fun hle => hno j hle hp, hp⟩⟩
  induction fuel generalizing start found with
  | zero =>
    refine finish start found hinv fun j hj ho => ?_
    have := ho.lt
    rw [List.length_take] at this
    omega
  | succ fuel ih =>
    unfold findLastLoop
    have hl := find__least cs (s.take endp) start needle
    cases hf : findSub cs ((s.take endp).drop start) needle with
    | none =>
      rw [hf] at hl
      exact finish start found hinv fun j hj ho => hl j ⟨hj, ho⟩
    | some i =>
      rw [hf] at hl
      replace hl : Least (fun j => start ≤ j ∧ Occ cs (s.take endp) needle j) (some (start + i)) := hl
      -- a hit begins inside the window, so the next search starts at most at its end
      have hb : start + i < endp := Nat.lt_of_lt_of_le hl.1.2.lt (List.length_take_le ..)
      simp only []
      rw [if_neg (Nat.not_le.2 hb)]
      exact ih (start + i + 1) (some (start + i)) (by omega)
        ⟨⟨Nat.lt_succ_self _, hl.1.2⟩, fun j h1 h2 => by omega⟩

theorem findLast__eq_idx (cs : CaseMode) (s : List Nat) (max : Nat) (needle : List Nat) :
    findLast_ cs s max needle = idx (findLastLoop cs s (min max s.length) needle (min max s.length + 1) 0 none) := by
  unfold findLast_
  simp only [clamp_eq_min]
  cases findLastLoop cs s (min max s.length) needle (min max s.length + 1) 0 none <;> rfl

theorem findLast__greatest (cs : CaseMode) (s : List Nat) (max : Nat) (needle : List Nat) :
    Greatest (fun j => j + needle.length ≤ max ∧ Occ cs s needle j)
      (findLastLoop cs s (min max s.length) needle (min max s.length + 1) 0 none) := by
  refine (findLastLoop_greatest cs s _ needle _ 0 none (Nat.lt_succ_self _)
    fun j h => Nat.not_lt_zero j h.1).congr fun j => ?_
  rw [occ_take]
  exact and_congr_left fun b => ⟨fun a => Nat.le_trans a (Nat.min_le_left ..), fun a => Nat.le_min.2 ⟨a, b.2.1⟩⟩

theorem findLast__nil_needle (cs : CaseMode) (s : List Nat) (max : Nat) : findLast_ cs s max [] = -1 := rfl

theorem findLast__nil_hay (cs : CaseMode) (max : Nat) (needle : List Nat) : findLast_ cs [] max needle = -1 := by
  simp [findLast_, findLastLoop, findSub_nil_hay]

theorem findLast__isFindLast (cs : CaseMode) (s : List Nat) (max : Nat) (needle : List Nat) :
    IsFindLast cs s max needle (findLast_ cs s max needle) :=
  (isFindLast_iff ..).2 ⟨_, findLast__eq_idx cs s max needle, findLast__greatest cs s max needle⟩

theorem guarded_findLast_ (cs : CaseMode) (s : List Nat) (max : Nat) (needle : List Nat) (g : Prop) [Decidable g]
    (hg : g → needle = [] ∨ s = []) :
    (if g then -1 else findLast_ cs s max needle) = findLast_ cs s max needle := by
  by_cases h : g
  · rw [if_pos h]
    rcases hg h with e | e
    · rw [e, findLast__nil_needle]
    · rw [e, findLast__nil_hay]
  · rw [if_neg h]

theorem findLast_eq_text (cs : CaseMode) (s : List Nat) (max : Nat) (nd : Needle) :
    findLast cs s max nd = findLast_ cs s max nd.text := by
  have nil := @List.eq_nil_of_length_eq_zero Nat
  cases nd with
  | ch c =>
    show findLastChar cs s max c = findLast_ cs s max [c]
    unfold findLastChar
    simp only [findLastCharLoop_eq]
    -- not through `guarded_findLast_`: matching its `findLast_` against the unfolded loop is slow to check
    by_cases h : s.length = 0
    · rw [if_pos h, nil h, findLast__nil_hay]
    · rw [if_neg h]; rfl
  | cstr p =>
    cases p with
    | none => rfl
    | some p =>
      show (if firstOf p = 0 ∨ s.length = 0 then -1 else findLast_ cs s max (p.take (strlen p))) = findLast_ cs s max (cstr p)
      rw [take_strlen]
      exact guarded_findLast_ cs s max _ _ fun h => h.imp (firstOf_eq_zero_iff p).1 (nil ·)
  | sized p => exact guarded_findLast_ cs s max p _ fun h => h.imp (nil ·) (nil ·)
  | sizedNull n => rfl
  | str n => exact guarded_findLast_ cs s max n _ fun h => h.imp (nil ·) (nil ·)

theorem Needle.text_map_fold (nd : Needle) : (nd.map foldAscii).text = nd.text.map foldAscii := by
  cases nd with
  | ch c => rfl
  | cstr p => cases p with
    | none => rfl
    | some p => simp [Needle.map, Needle.text, cstr_map_fold]
  | sized p => rfl
  | sizedNull n => rfl
  | str s => rfl

theorem findRef_fold (hay : List Nat) (start : Nat) (needle : List Nat) :
    findRef .insensitive hay start needle = findRef .sensitive (hay.map foldAscii) start (needle.map foldAscii) := by
  unfold findRef
  simp only [occursAt_fold, List.length_map, List.map_eq_nil_iff]

theorem findLastRef_fold (hay : List Nat) (max : Nat) (needle : List Nat) :
    findLastRef .insensitive hay max needle = findLastRef .sensitive (hay.map foldAscii) max (needle.map foldAscii) := by
  unfold findLastRef
  simp only [occursAt_fold, List.length_map, List.map_eq_nil_iff]

theorem bytes_cstr {xs : List Nat} (h : Bytes xs) : Bytes (cstr xs) :=
  fun x hx => h x ((List.takeWhile_sublist _).subset hx)

theorem Affix.toRhs_text (a : Affix) : a.toRhs.text = a.text := by
  cases a with
  | str p => rfl
  | cstr p => cases p <;> rfl

theorem startsWith_eq (cs : CaseMode) (s : List Nat) (a : Affix) :
    startsWith cs s a = if a.toRhs.size > s.length then false else strCompareN cs s a.toRhs a.toRhs.size == 0 := by
  cases a with
  | str p => rfl
  | cstr p => cases p <;> rfl

theorem endsWith_eq (cs : CaseMode) (s : List Nat) (a : Affix) :
    endsWith cs s a =
      if a.text.length > s.length then false else prefixEq cs (s.drop (s.length - a.text.length)) a.text := by
  cases a with
  | str p => rfl
  | cstr p =>
    cases p with
    | none => rfl
    | some p =>
      simp only [endsWith, Affix.text, take_strlen]
      rw [strlen_eq]
      rfl

end StVerif.Lemmas.Find
