/-
  Bridge for two translated functions of include/st_string_priv.h (StVerif/Generated/Kernels.lean).

  The 3-argument `compare_ci(left, right, fsize)` (`compare_ci` / `compare_ci_loop1`) against the model
  `StVerif.Compare.compareCi3`.  The translated loop reads two separate source ranges `mem_left` / `mem_right`;
  `while (fsize--)` carries `fsize` with the unsigned wrap-around of the post-decrement.

  `find_ci(haystack, size, ch)`, the case-insensitive scan for one character, against the model's `Search.scanChar`
  (a pointer result is `Option Nat`: the index found, or `none` for the null pointer).
-/
import StVerif.Lemmas.KernelBridge
import StVerif.Lemmas.Compare
import StVerif.Model.Find
open StVerif.Cxx StVerif.Generated StVerif.Lemmas.Compare StVerif.Search

namespace StVerif.KernelBridge

theorem toChar_eq_schar (b : Nat) (hb : b < 256) : toChar b = Compare.schar b := by
  unfold toChar Compare.schar toSigned
  rw [Nat.mod_eq_of_lt (b := 2 ^ 8) hb]
  -- the same `if b < 128` on both sides, up to the values of `2 ^ 7` and `2 ^ 8`
  rfl

theorem cl_fast_lower_schar (b : Nat) (hb : b < 256) :
    Kernels.cl_fast_lower (toChar b) = .ok (Compare.schar (Search.lower b)) := by
  rw [cl_fast_lower_eq b hb, toChar_eq_schar _ (lower_lt b hb)]

theorem compare_ci_loop1_eq (l r : List Nat) (hl : ∀ b ∈ l, b < 256) (hr : ∀ b ∈ r, b < 256) :
    ∀ (fuel p q n : Nat), p + n ≤ l.length → q + n ≤ r.length → n < 2 ^ 64 → n < fuel →
      Kernels.compare_ci_loop1 l r fuel p q n
        = .ok (Compare.compareCi3 ((l.drop p).take n) ((r.drop q).take n)) := by
  intro fuel
  induction fuel with
  | zero => intro p q n _ _ _ h; cases h
  | succ fuel ih =>
    intro p q n hp hq hn64 hf
    unfold Kernels.compare_ci_loop1
    cases n with
    | zero => rfl
    | succ n =>
      obtain ⟨a, ra, da⟩ := rd_lt l p (by omega)
      obtain ⟨b, rb, db⟩ := rd_lt r q (by omega)
      -- `fsize--` of a `size_t` that is not 0
      have hdec : (n + 1 + 18446744073709551615) % 18446744073709551616 = n := by
        rw [Nat.add_assoc, Nat.add_mod_right, Nat.mod_eq_of_lt (Nat.lt_of_succ_lt hn64)]
      rw [da, db, List.take_succ_cons, List.take_succ_cons, Compare.compareCi3]
      simp only [ne_eq, Nat.succ_ne_zero, not_false_eq_true, ↓reduceIte, hdec, ↓bind_of_ok ra, ↓bind_of_ok rb, ok_bind,
        cl_fast_lower_schar _ (hl a (mem_of_rd ra)), cl_fast_lower_schar _ (hr b (mem_of_rd rb)),
        ih (p + 1) (q + 1) n (by omega) (by omega) (Nat.lt_of_succ_lt hn64) (Nat.lt_of_succ_lt_succ hf)]
      -- both branches return: `.ok` of the model's `if`
      exact (apply_ite Except.ok _ _ _).symm

theorem compare_ci_eq (l r : List Nat) (hl : ∀ b ∈ l, b < 256) (hr : ∀ b ∈ r, b < 256)
    (n : Nat) (hn : n ≤ l.length) (hn' : n ≤ r.length) (hn64 : n < 2 ^ 64) (fuel : Nat) (hf : n < fuel) :
    Kernels.compare_ci l r fuel 0 0 n = .ok (Compare.compareCi3 (l.take n) (r.take n)) :=
  compare_ci_loop1_eq l r hl hr fuel 0 0 n (by omega) (by omega) hn64 hf

theorem toChar_inj (a : Nat) (ha : a < 256) (b : Nat) (hb : b < 256) : toChar a = toChar b ↔ a = b := by
  rw [toChar_eq_schar a ha, toChar_eq_schar b hb]
  exact schar_eq_iff a b ha hb

theorem find_ci_eq (mem : List Nat) (hb : ∀ b ∈ mem, b < 256) (c : Nat) (hc : c < 256) (fuel : Nat)
    (hf : mem.length < fuel) :
    Kernels.find_ci mem fuel 0 mem.length (toChar c) = .ok (scanChar .insensitive c mem 0) := by
  unfold Kernels.find_ci
  simp only [cl_fast_lower_eq c hc, ok_bind, Nat.zero_add]
  refine (rd_steps mem).loop_eq
    (fun n p (_ : Unit) => Kernels.find_ci_loop1 mem 0 mem.length (toChar c) mem.length (toChar (lower c)) n p)
    (fun p vs _ => .ok (scanChar .insensitive c vs p)) (fun _ _ => True) ?_ ?_ fuel 0 () (Nat.zero_le _) hf trivial
  · intro n p _ hp
    simp only [Kernels.find_ci_loop1, Nat.not_lt.2 hp, ↓reduceIte, pure_eq_ok, scanChar]
  · rintro n p _ t _ vs hp _ _ ⟨hr, rfl⟩ _ ih
    have ht : t < 256 := hb t (mem_of_rd hr)
    simp only [Kernels.find_ci_loop1, hp, ↓reduceIte, ↓bind_of_ok hr, ok_bind, cl_fast_lower_eq t ht, scanChar, eqv,
      toChar_inj _ (lower_lt t ht) _ (lower_lt c hc), beq_iff_eq, ih () trivial]
    exact (apply_ite Except.ok _ _ _).symm

end StVerif.KernelBridge
