/-
  Bridge for the translated codecs of include/st_codecs_priv.h (as written by tools/gen_kernels.py).

  Encoders: `hex_encode` and `b64_encode`, run over a whole source with enough fuel, return the model's
  `Codec.hexEncode` / `Codec.b64Encode`.  The translated character tables carry the terminating NUL of the C string,
  the model's do not: the NUL is never read; the `default:` branch of the `switch (size)` tail with its ST_ASSERT is
  unreachable.

  Decoders into a caller buffer: `b64_decode_size`, `hex_decode` and `b64_decode`.  The `const ST::string &` parameter
  is the source range `txt ++ [0]` (the text followed by the terminating NUL of `c_str()`) plus the parameter
  `<name>_size = txt.length`; `void *output` is the flag `output_null` plus the list of units stored.  The loops do not
  read outside the text: `hex_decode_loop_eq` and `b64_decode_loop_eq` hold for `txt ++ s` with any `s`.  Every stored
  value fits a byte (the model's narrowing `Codec.chr` is the identity on them).
-/
import StVerif.Lemmas.KernelBridge
import StVerif.Lemmas.Codec
open StVerif.Cxx StVerif.Generated

namespace StVerif.KernelBridge

theorem rd_app_getD (txt s : List Nat) (i : Nat) (hi : i < txt.length) :
    rd (txt ++ s) i = .ok (txt.getD i 0) := by
  apply rd_of_getElem?
  rw [List.getElem?_append_left hi, List.getD_eq_getElem?_getD, List.getElem?_eq_getElem hi]
  rfl

-- the translated table unfolds to the model's followed by the NUL
theorem rd_hex_chars (i : Nat) (h : i < 16) : rd Kernels.hex_encode_hex_chars i = .ok (Codec.hexChar i) :=
  rd_app_getD hexChars [0] i h

theorem rd_b64_chars (i : Nat) (h : i < 64) : rd Kernels.b64_encode_b64_chars i = .ok (Codec.b64Char i) :=
  rd_app_getD b64Chars [0] i h

theorem b64_ix0 {a : Nat} (ha : a < 256) : a >>> 2 < 64 := by
  rw [Nat.shiftRight_eq_div_pow]; exact Nat.div_lt_of_lt_mul ha

theorem b64_ix1 (a b : Nat) : ((a &&& 3) <<< 4) ||| ((b &&& 240) >>> 4) < 64 :=
  Nat.or_lt_two_pow (n := 6) (and_shl_lt a 3 4 6 (by decide)) (and_shr_lt b 240 4 6 (by decide))

theorem b64_ix2 (a b : Nat) : ((a &&& 15) <<< 2) ||| ((b &&& 192) >>> 6) < 64 :=
  Nat.or_lt_two_pow (n := 6) (and_shl_lt a 15 2 6 (by decide)) (and_shr_lt b 192 6 6 (by decide))

/-- the loop counts `size` down: at position `p` it is `mem.length - p` -/
theorem hex_encode_eq (mem : List Nat) (fuel : Nat) (hf : mem.length < fuel) :
    Kernels.hex_encode mem fuel 0 mem.length = .ok (Codec.hexEncode mem) := by
  unfold Kernels.hex_encode
  have h := (rd_steps mem).loop_eq (fun n p out => Kernels.hex_encode_loop1 mem 0 n (mem.length - p) p out)
    (fun _ vs out => .ok (out ++ Codec.hexEncode vs)) (fun _ _ => True) ?_ ?_ fuel 0 [] (Nat.zero_le _) hf trivial
  · simpa using h
  · intro n p out hp
    simp only [Kernels.hex_encode_loop1, Nat.sub_eq_zero_of_le hp, ne_eq, not_true_eq_false, ↓reduceIte, pure_eq_ok,
      Codec.hexEncode, List.append_nil]
  · rintro n p out v _ vs hp _ _ ⟨hr, rfl⟩ _ ih
    simp only [Kernels.hex_encode_loop1, Nat.sub_ne_zero_of_lt hp, ne_eq, not_false_eq_true, ↓reduceIte, rd8, hr,
      ok_bind, Nat.zero_add, rd_hex_chars _ (and_lt _ 15 16 (by decide)), Nat.sub_sub, ih _ trivial, Codec.hexEncode,
      List.append_assoc, List.cons_append, List.nil_append]

theorem hex_encode_ok (mem : List Nat) (fuel : Nat) (hf : mem.length < fuel) :
    isOk (Kernels.hex_encode mem fuel 0 mem.length) = true := by
  rw [hex_encode_eq mem fuel hf]; rfl

/-- the `while (size > 2)` loop followed by the `switch (size)` tail; `sz` bytes are left at position `p` -/
theorem b64_encode_loop_eq (mem : List Nat) (hb : ∀ b ∈ mem, b < 256) (data : Nat) :
    ∀ fuel p sz out, p + sz = mem.length → sz < fuel →
      Kernels.b64_encode_loop1 mem data fuel sz p out = .ok (out ++ Codec.b64Encode (mem.drop p)) := by
  intro fuel
  induction fuel with
  | zero => intro _ _ _ _ h; exact absurd h (Nat.not_lt_zero _)
  | succ n ih =>
    intro p sz out hs hf
    rw [Kernels.b64_encode_loop1]
    by_cases c3 : sz > 2
    · obtain ⟨b0, r0, d0⟩ := rd_lt mem p (by omega)
      obtain ⟨b1, r1, d1⟩ := rd_lt mem (p + 1) (by omega)
      obtain ⟨b2, r2, d2⟩ := rd_lt mem (p + 2) (by omega)
      simp only [d0, d1, d2, Codec.b64Encode, c3, ↓reduceIte, rd8, Nat.add_zero, r0, r1, r2, ok_bind, Nat.zero_add,
        rd_b64_chars _ (b64_ix0 (hb b0 (mem_of_rd r0))), rd_b64_chars _ (b64_ix1 _ _), rd_b64_chars _ (b64_ix2 _ _),
        rd_b64_chars _ (and_lt _ 63 64 (by decide)), ih (p + 3) (sz - 3) _ (by omega) (by omega), List.append_assoc,
        List.cons_append, List.nil_append]
    by_cases c2 : sz = 2
    · subst c2
      obtain ⟨b0, r0, d0⟩ := rd_lt mem p (by omega)
      obtain ⟨b1, r1, d1⟩ := rd_lt mem (p + 1) (by omega)
      simp only [d0, d1, List.drop_eq_nil_of_le (Nat.le_of_eq hs.symm), Codec.b64Encode, gt_iff_lt, Nat.lt_irrefl,
        ↓reduceIte, rd8, Nat.add_zero, r0, r1, ok_bind, Nat.zero_add, rd_b64_chars _ (b64_ix0 (hb b0 (mem_of_rd r0))),
        rd_b64_chars _ (b64_ix1 _ _), rd_b64_chars _ (and_shl_lt _ 15 2 6 (by decide)), pure_eq_ok, Codec.eqSign,
        List.append_assoc, List.cons_append, List.nil_append]
    by_cases c1 : sz = 1
    · subst c1
      obtain ⟨b0, r0, d0⟩ := rd_lt mem p (by omega)
      simp only [d0, List.drop_eq_nil_of_le (Nat.le_of_eq hs.symm), Codec.b64Encode, gt_iff_lt, Nat.reduceLT,
        Nat.reduceEqDiff, ↓reduceIte, rd8, Nat.add_zero, r0, ok_bind, Nat.zero_add,
        rd_b64_chars _ (b64_ix0 (hb b0 (mem_of_rd r0))), rd_b64_chars _ (and_shl_lt _ 3 4 6 (by decide)), pure_eq_ok,
        Codec.eqSign, List.append_assoc, List.cons_append, List.nil_append]
    · obtain rfl : sz = 0 := by omega
      simp [List.drop_eq_nil_of_le (i := p) (Nat.le_of_eq hs.symm), Codec.b64Encode]

theorem b64_encode_eq (mem : List Nat) (hb : ∀ b ∈ mem, b < 256) (fuel : Nat) (hf : mem.length < fuel) :
    Kernels.b64_encode mem fuel 0 mem.length = .ok (Codec.b64Encode mem) :=
  b64_encode_loop_eq mem hb 0 fuel 0 mem.length [] (Nat.zero_add _) hf

theorem b64_encode_ok (mem : List Nat) (hb : ∀ b ∈ mem, b < 256) (fuel : Nat) (hf : mem.length < fuel) :
    isOk (Kernels.b64_encode mem fuel 0 mem.length) = true := by
  rw [b64_encode_eq mem hb fuel hf]; rfl

/-- With this congruence rule `simp` leaves the continuation of a bind alone until the first part has become a value
    (`ok_bind` then puts it in): a translated `do` block is evaluated from the front and nothing is rewritten under its
    binders, which is slow to check on a long block.  It stands behind the encoders on purpose: `ok_bind` holds by
    unfolding, the kernel redoes that unfolding, and in `b64_encode_loop1` it would first unfold the shift in the index
    of the next table read, at many times the cost saved. -/
@[local congr] theorem bind_congr_left {α β : Type} {x x' : M α} (f : α → M β) (h : x = x') :
    (x >>= f) = (x' >>= f) :=
  h ▸ rfl

theorem rdI_getD (tbl : List Int) (i : Nat) (d : Int) (h : i < tbl.length) : rdI tbl i = .ok (tbl.getD i d) := by
  simp [rdI, List.getD, List.getElem?_eq_getElem h]

theorem hex_values_eq : Kernels.hex_decode_hex_values = hexValues := rfl
theorem b64_values_eq : Kernels.b64_decode_b64_values = b64Values := rfl

theorem rdI_hex_values (b : Nat) (hb : b < 256) : rdI Kernels.hex_decode_hex_values b = .ok (Codec.hexVal b) := by
  rw [hex_values_eq]
  exact rdI_getD _ _ _ (by rw [show hexValues.length = 256 by decide +kernel]; exact hb)

theorem rdI_b64_values (b : Nat) (hb : b < 256) : rdI Kernels.b64_decode_b64_values b = .ok (Codec.b64Val b) := by
  rw [b64_values_eq]
  exact rdI_getD _ _ _ (by rw [show b64Values.length = 256 by decide +kernel]; exact hb)

theorem rd_app_lt (txt s : List Nat) (p : Nat) (hp : p < txt.length) :
    ∃ v, rd (txt ++ s) p = .ok v ∧ v ∈ txt ∧ txt.drop p = v :: txt.drop (p + 1) :=
  ⟨txt[p], rd_of_getElem? (by rw [List.getElem?_append_left hp, List.getElem?_eq_getElem hp]), List.getElem_mem hp,
    List.drop_eq_getElem_cons hp⟩

theorem chr_of_lt {x : Nat} (h : x < 256) : Codec.chr x = x := Nat.mod_eq_of_lt h

theorem chr_or {a b : Nat} (ha : a < 256) (hb : b < 256) : Codec.chr (a ||| b) = a ||| b :=
  chr_of_lt (Nat.or_lt_two_pow (n := 8) ha hb)

theorem shl_lt {x k : Nat} (hx : x < k) (s : Nat) : x <<< s < k * 2 ^ s := by
  rw [Nat.shiftLeft_eq]; exact Nat.mul_lt_mul_of_pos_right hx (Nat.two_pow_pos s)

theorem chr_hex {x y : Nat} (hx : x < 16) (hy : y < 16) : Codec.chr (x <<< 4 ||| y) = x <<< 4 ||| y :=
  chr_or (shl_lt hx 4) (Nat.lt_trans hy (by decide))

theorem chr_b64_0 {x : Nat} (hx : x < 64) (y : Nat) :
    Codec.chr ((x <<< 2) ||| ((y >>> 4) &&& 3)) = (x <<< 2) ||| ((y >>> 4) &&& 3) :=
  chr_or (shl_lt hx 2) (and_lt _ _ _ (by decide))

theorem chr_b64_1 (x y : Nat) :
    Codec.chr (((x <<< 4) &&& 240) ||| ((y >>> 2) &&& 15)) = ((x <<< 4) &&& 240) ||| ((y >>> 2) &&& 15) :=
  chr_or (and_lt _ _ _ (by decide)) (and_lt _ _ _ (by decide))

theorem chr_b64_2 (x y : Nat) :
    Codec.chr (((x <<< 6) &&& 192) ||| (y &&& 63)) = ((x <<< 6) &&& 192) ||| (y &&& 63) :=
  chr_or (and_lt _ _ _ (by decide)) (and_lt _ _ _ (by decide))

/-- what a translated decoder returns for the model's result -/
def retWrites (r : Codec.DecRes) : Int × List Nat := (r.ret, r.writes)

/-- `n` is the number of output bytes still to produce (`endp - outp`), `acc` the output so far, last byte first -/
theorem hex_decode_loop_eq (txt s : List Nat) (hb : ∀ b ∈ txt, b < 256) (osz dsz endp hsz : Nat) (onull : Bool) :
    ∀ fuel p acc n, p + 2 * n ≤ txt.length → acc.length + n = endp → n < fuel →
      Kernels.hex_decode_loop1 (txt ++ s) osz dsz endp hsz onull fuel p acc.reverse
        = .ok (retWrites (Codec.hexDecodeLoop n (txt.drop p) acc)) := by
  intro fuel
  induction fuel with
  | zero => intro _ _ _ _ _ h; exact absurd h (Nat.not_lt_zero _)
  | succ f ih =>
    intro p acc n hp he hf
    rw [Kernels.hex_decode_loop1, List.length_reverse]
    cases n with
    | zero => simp only [← he, Nat.add_zero, Nat.lt_irrefl, ↓reduceIte, pure_eq_ok, Codec.hexDecodeLoop, retWrites]
    | succ n =>
      obtain ⟨a, r0, ma, d0⟩ := rd_app_lt txt s p (by omega)
      obtain ⟨b, r1, mb, d1⟩ := rd_app_lt txt s (p + 1) (by omega)
      have ba := (Int.toNat_lt' (n := 16) (by decide)).mpr (Lemmas.Codec.hexVal_lt' (hb a ma))
      have bb := (Int.toNat_lt' (n := 16) (by decide)).mpr (Lemmas.Codec.hexVal_lt' (hb b mb))
      rw [d0, d1]
      simp only [show acc.length < endp by omega, ↓reduceIte, rd8, Nat.add_zero, r0, r1, ok_bind, Nat.zero_add,
        rdI_hex_values _ (hb a ma), rdI_hex_values _ (hb b mb), Codec.hexDecodeLoop, ite_cascade_or]
      by_cases hbad : Codec.hexVal a < 0 ∨ Codec.hexVal b < 0
      · simp only [hbad, ↓reduceIte, pure_eq_ok, retWrites]
      · simp only [hbad, ↓reduceIte, chr_hex ba bb, ← List.reverse_cons]
        exact ih (p + 2) _ n (by omega) ((Nat.succ_add_eq_add_succ _ n).trans he) (Nat.lt_of_succ_lt_succ hf)

theorem hex_decode_eq (txt : List Nat) (hb : ∀ b ∈ txt, b < 256) (cap : Option Nat) (fuel : Nat)
    (hf : txt.length < fuel) :
    Kernels.hex_decode (txt ++ [0]) fuel txt.length cap.isNone (cap.getD 0)
      = .ok ((Codec.hexDecodeInto txt cap).ret, (Codec.hexDecodeInto txt cap).writes) := by
  unfold Kernels.hex_decode Codec.hexDecodeInto
  by_cases hodd : txt.length % 2 ≠ 0
  · simp only [hodd, ne_eq, not_false_eq_true, ↓reduceIte, pure_eq_ok]
  · simp only [hodd, ↓reduceIte]
    cases cap with
    | none => simp only [Option.isNone_none, Bool.true_eq_false, ↓reduceIte, pure_eq_ok]
    | some c =>
      simp only [Option.isNone_some, ↓reduceIte, Option.getD_some]
      by_cases hc : txt.length / 2 > c
      · simp only [hc, ↓reduceIte, pure_eq_ok]
      · simp only [hc, ↓reduceIte]
        exact hex_decode_loop_eq txt [0] hb c _ _ _ false fuel 0 [] _ (by omega) rfl
          (Nat.lt_of_le_of_lt (Nat.div_le_self ..) hf)

theorem toChar_eq_61 {v : Nat} (hv : v < 256) : (toChar v = (61 : Int)) ↔ v = 61 := by
  unfold toChar; split <;> omega

theorem getD_lt_256 (txt : List Nat) (hb : ∀ b ∈ txt, b < 256) (i : Nat) : txt.getD i 0 < 256 := by
  rw [List.getD_eq_getElem?_getD]
  cases h : txt[i]? with
  | none => simp
  | some v => exact hb v (List.mem_of_getElem? h)

/-- the translated `--n` on a `size_t` that is not zero -/
theorem size_dec_eq {n : Nat} (h : n < 2 ^ 63) :
    ((((n + 1 : Nat) : Int) - (1 : Int)) + 18446744073709551616).toNat % 18446744073709551616 = n := by
  rw [Int.natCast_succ, Int.add_sub_cancel]
  exact (Nat.add_mod_right n _).trans (Nat.mod_eq_of_lt (Nat.lt_trans h (by decide)))

/-- the translated conversion of a `size_t` below 2^63 to `ST_ssize_t` -/
theorem ssize_cast_of_lt {n : Nat} (h : n < 2 ^ 63) :
    (((n : Nat) : Int) + 9223372036854775808) % 18446744073709551616 - 9223372036854775808 = n := by
  rw [Int.emod_eq_of_lt (Int.add_nonneg (Int.natCast_nonneg n) (by decide)), Int.add_sub_cancel]
  exact Int.add_lt_add_right (Int.ofNat_lt.2 h) 9223372036854775808

/-- the `size_t` decrements do not wrap, and the conversion of the `size_t` result to `ST_ssize_t` is value preserving
    for every text below ST::string's size limit -/
theorem b64_decode_size_eq (txt : List Nat) (hb : ∀ b ∈ txt, b < 256) (hlen : txt.length < 2 ^ 28) :
    Kernels.b64_decode_size (txt ++ [0]) txt.length 0 = .ok (Codec.b64DecodeSize txt) := by
  unfold Kernels.b64_decode_size Codec.b64DecodeSize
  by_cases h4 : txt.length % 4 ≠ 0
  · simp only [h4, ne_eq, not_false_eq_true, ↓reduceIte, pure_eq_ok]
  · by_cases h0 : txt.length > 0
    · obtain ⟨h1, h2, h3⟩ : txt.length > 1 ∧ 2 ≤ txt.length / 4 * 3 ∧ txt.length / 4 * 3 < 2 ^ 63 := by omega
      -- `result` is `k + 2`: the decrements are `size_dec_eq` at `k + 1` and at `k`
      obtain ⟨k, hk⟩ := Nat.exists_eq_add_of_le' h2
      have e : (txt.length : Int) / 4 * 3 = ((k + 2 : Nat) : Int) := congrArg Nat.cast hk
      rw [hk] at h3
      have k1 := Nat.lt_of_succ_lt h3
      have k0 := Nat.lt_of_succ_lt k1
      have r1 := rd_app_getD txt [0] (txt.length - 1) (Nat.sub_lt h0 Nat.one_pos)
      have r2 := rd_app_getD txt [0] (txt.length - 2) (Nat.sub_lt h0 Nat.two_pos)
      have b1 := getD_lt_256 txt hb (txt.length - 1)
      have b2 := getD_lt_256 txt hb (txt.length - 2)
      simp only [h4, h0, h1, ↓reduceIte, rd8, Nat.zero_add, r1, r2, ok_bind, toChar_eq_61 b1, toChar_eq_61 b2,
        Codec.eqSign, true_and, pure_eq_ok, hk, e, size_dec_eq, ssize_cast_of_lt, h3, k1, k0]
      by_cases hx : txt.getD (txt.length - 1) 0 = 61 <;> by_cases hy : txt.getD (txt.length - 2) 0 = 61 <;>
        simp only [hx, hy, ↓reduceIte, Int.natCast_succ, Int.add_sub_cancel]
    · simp [Nat.eq_zero_of_not_pos h0]

/-- the model's main loop followed by its "final chars treated specially" part -/
def b64Tail (endp outp : Nat) (l acc : List Nat) : Codec.DecRes :=
  match Codec.b64MainLoop endp outp l acc with
  | .inl r => r
  | .inr (acc, rest) => Codec.b64Final acc rest

/-- the `while (outp + 3 < endp)` loop followed by the final group; `r` groups of four characters are left, `acc` is the
    output so far, last byte first -/
theorem b64_decode_loop_eq (txt s : List Nat) (hb : ∀ b ∈ txt, b < 256) (osz : Nat) (dsz : Int) (endp bsz : Nat)
    (onull : Bool) :
    ∀ fuel p acc r, 1 ≤ r → p + 4 * r ≤ txt.length → endp ≤ r * 3 + acc.length → r ≤ fuel →
      Kernels.b64_decode_loop1 (txt ++ s) osz dsz endp bsz onull fuel p acc.reverse
        = .ok (retWrites (b64Tail endp acc.length (txt.drop p) acc)) := by
  intro fuel
  induction fuel with
  | zero => intro _ _ _ h1 _ _ h; exact absurd (Nat.le_trans h1 h) (by decide)
  | succ f ih =>
    intro p acc r hr hp he hf
    obtain ⟨k, rfl⟩ := Nat.exists_eq_add_of_le' hr
    have lt : ∀ j, j < 4 → p + j < txt.length := fun j hj => by omega
    obtain ⟨c0, r0, m0, d0⟩ := rd_app_lt txt s p (lt 0 (by decide))
    obtain ⟨c1, r1, m1, d1⟩ := rd_app_lt txt s (p + 1) (lt 1 (by decide))
    obtain ⟨c2, r2, m2, d2⟩ := rd_app_lt txt s (p + 2) (lt 2 (by decide))
    obtain ⟨c3, r3, m3, d3⟩ := rd_app_lt txt s (p + 3) (lt 3 (by decide))
    have n0 := (Int.toNat_lt' (n := 64) (by decide)).mpr (Lemmas.Codec.b64Val_lt' (hb c0 m0))
    rw [d0, d1, d2, d3, Kernels.b64_decode_loop1, b64Tail, Codec.b64MainLoop]
    simp only [List.length_reverse, rd8, Nat.add_zero, r0, r1, r2, r3, ok_bind, Nat.zero_add, rdI_b64_values _ (hb c0 m0),
      rdI_b64_values _ (hb c1 m1), rdI_b64_values _ (hb c2 m2), rdI_b64_values _ (hb c3 m3), ite_cascade_or]
    by_cases hm : acc.length + 3 < endp
    · simp only [hm, ↓reduceIte]
      by_cases hbad : Codec.b64Val c0 < 0 ∨ Codec.b64Val c1 < 0 ∨ Codec.b64Val c2 < 0 ∨ Codec.b64Val c3 < 0
      · simp only [hbad, ↓reduceIte, pure_eq_ok, retWrites]
      · simp only [hbad, ↓reduceIte, chr_b64_0 n0, chr_b64_1, chr_b64_2, ← List.reverse_cons]
        exact ih (p + 4) _ k (by omega) (by omega) (by simp only [List.length_cons]; omega) (Nat.le_of_succ_le_succ hf)
    · simp only [hm, ↓reduceIte, Codec.b64Final, Codec.eqSign, chr_b64_0 n0, chr_b64_1, chr_b64_2, ← List.reverse_cons,
        List.length_reverse]
      -- the kernel tests what `b64Final` tests, in the same order, once it is known which of `c2`, `c3` is `=`
      by_cases e2 : c2 = 61 <;> by_cases e3 : c3 = 61 <;>
        simp only [e2, e3, ne_eq, not_true_eq_false, not_false_eq_true, ↓reduceIte, true_and, false_and,
          ↓apply_ite retWrites, apply_ite (Except.ok (ε := Fault)), retWrites, pure_eq_ok]

theorem ite_dec_le (c : Prop) [Decidable c] (r : Int) : (if c then r - 1 else r) ≤ r := by
  split
  · exact Int.sub_le_self r (by decide)
  · exact Int.le_refl r

theorem b64DecodeSize_le (txt : List Nat) : Codec.b64DecodeSize txt ≤ ((txt.length / 4 * 3 : Nat) : Int) := by
  simp only [Codec.b64DecodeSize]
  by_cases h4 : txt.length % 4 ≠ 0
  · rw [if_pos h4]
    exact Int.le_trans (by decide) (Int.natCast_nonneg _)
  · rw [if_neg h4]
    exact Int.le_trans (ite_dec_le _ _) (ite_dec_le _ _)

theorem b64_decode_eq (txt : List Nat) (hb : ∀ b ∈ txt, b < 256) (hlen : txt.length < 2 ^ 28) (cap : Option Nat)
    (fuel : Nat) (hf : txt.length < fuel) :
    Kernels.b64_decode (txt ++ [0]) fuel txt.length cap.isNone (cap.getD 0)
      = .ok ((Codec.b64DecodeInto txt cap).ret, (Codec.b64DecodeInto txt cap).writes) := by
  unfold Kernels.b64_decode Codec.b64DecodeInto
  simp only [b64_decode_size_eq txt hb hlen, ok_bind]
  cases cap with
  | none => simp only [Option.isNone_none, Bool.true_eq_false, ↓reduceIte, pure_eq_ok]
  | some c =>
    simp only [Option.isNone_some, ↓reduceIte, Option.getD_some, Nat.zero_add, gt_iff_lt, Int.lt_toNat]
    by_cases hneg : Codec.b64DecodeSize txt < 0
    · simp only [hneg, ↓reduceIte, true_or, pure_eq_ok]
    · by_cases hc : (c : Int) < Codec.b64DecodeSize txt
      · simp only [hneg, hc, ↓reduceIte, or_true, pure_eq_ok]
      · by_cases hz : Codec.b64DecodeSize txt = 0
        · simp only [hneg, hc, if_pos hz, ↓reduceIte, or_self, pure_eq_ok]
        · have hle := b64DecodeSize_le txt
          simp only [hneg, hc, hz, ↓reduceIte, or_self]
          -- what is left of `b64DecodeInto` is `b64Tail` unfolded
          exact b64_decode_loop_eq txt [0] hb c _ _ _ false fuel 0 [] (txt.length / 4)
            (by omega) (by omega) (Int.toNat_le.2 hle) (Nat.le_trans (Nat.div_le_self ..) (Nat.le_of_lt hf))

theorem hex_decode_ok (txt : List Nat) (hb : ∀ b ∈ txt, b < 256) (cap : Option Nat) (fuel : Nat)
    (hf : txt.length < fuel) :
    isOk (Kernels.hex_decode (txt ++ [0]) fuel txt.length cap.isNone (cap.getD 0)) = true := by
  rw [hex_decode_eq txt hb cap fuel hf]; rfl

theorem b64_decode_ok (txt : List Nat) (hb : ∀ b ∈ txt, b < 256) (hlen : txt.length < 2 ^ 28) (cap : Option Nat)
    (fuel : Nat) (hf : txt.length < fuel) :
    isOk (Kernels.b64_decode (txt ++ [0]) fuel txt.length cap.isNone (cap.getD 0)) = true := by
  rw [b64_decode_eq txt hb hlen cap fuel hf]; rfl

end StVerif.KernelBridge
