/-
  Facts about the Spec of comparison alone: `lexSign key` is the three-way form of core's `<` on
  the keyed texts (`lexSign_eq`), hence a three-way total preorder whose equivalence is equality of
  the keyed texts; it agrees with the textbook `LexLt` for injective keys, and it decomposes into
  "common prefix, then lengths".
-/
import StVerif.Spec.Compare

namespace StVerif.Lemmas.CompareSpec
open StVerif.Spec.Compare

theorem lexSign_eq (key : Nat → Int) (a b : List Nat) :
    lexSign key a b = if a.map key < b.map key then -1 else if b.map key < a.map key then 1 else 0 := by
  fun_induction lexSign key a b
  -- an operand is empty: `[] []`, `[] (_ :: _)`, `(_ :: _) []`
  case case1 => rfl
  case case2 => rfl
  case case3 => rfl
  -- first units `x`, `y` with `key x < key y`
  case case4 hlt => simp [List.cons_lt_cons_iff, hlt]
  -- `key y < key x`
  case case5 x _ y _ hnlt hgt => simp [List.cons_lt_cons_iff, hnlt, hgt, Int.ne_of_gt hgt]
  -- equal keys at the first units: the rests decide
  case case6 x _ y _ hnlt hngt ih => simp [Int.le_antisymm (Int.not_lt.1 hngt) (Int.not_lt.1 hnlt), ih]

theorem lexSign_neg_iff (key : Nat → Int) (a b : List Nat) : lexSign key a b < 0 ↔ a.map key < b.map key := by
  rw [lexSign_eq]; repeat' split
  all_goals simp [*]

theorem lexSign_nonpos_iff (key : Nat → Int) (a b : List Nat) : lexSign key a b ≤ 0 ↔ a.map key ≤ b.map key := by
  rw [lexSign_eq, ← List.not_lt]; repeat' split
  all_goals simp [*, List.lt_asymm]

theorem lexSign_range (key : Nat → Int) (a b : List Nat) :
    lexSign key a b = -1 ∨ lexSign key a b = 0 ∨ lexSign key a b = 1 := by
  rw [lexSign_eq]; repeat' split
  all_goals simp

theorem lexSign_self (key : Nat → Int) (a : List Nat) : lexSign key a a = 0 := by
  rw [lexSign_eq, if_neg (List.lt_irrefl _), if_neg (List.lt_irrefl _)]

theorem lexSign_swap (key : Nat → Int) (a b : List Nat) : lexSign key b a = - lexSign key a b := by
  rw [lexSign_eq, lexSign_eq]
  by_cases h : a.map key < b.map key
  · rw [if_pos h, if_neg (List.lt_asymm h), if_pos h]; rfl
  · rw [if_neg h]; split <;> rfl

theorem lexSign_eq_zero_iff (key : Nat → Int) (a b : List Nat) :
    lexSign key a b = 0 ↔ a.map key = b.map key := by
  rw [lexSign_eq]
  refine ⟨fun h => ?_, fun h => by rw [h, if_neg (List.lt_irrefl _), if_neg (List.lt_irrefl _)]⟩
  split at h
  · cases h
  · split at h
    · cases h
    · -- neither is below the other (`x ≤ y` on lists is `¬ y < x`)
      rename_i hab hba
      exact List.le_antisymm hba hab

theorem lexSign_eq_zero_iff_eq (key : Nat → Int) (inj : ∀ x y, key x = key y → x = y) (a b : List Nat) :
    lexSign key a b = 0 ↔ a = b := by
  rw [lexSign_eq_zero_iff, List.map_inj_right inj]

theorem lexSign_trans (key : Nat → Int) (a b c : List Nat) :
    (lexSign key a b ≤ 0 → lexSign key b c ≤ 0 → lexSign key a c ≤ 0) ∧
    (lexSign key a b < 0 → lexSign key b c ≤ 0 → lexSign key a c < 0) ∧
    (lexSign key a b ≤ 0 → lexSign key b c < 0 → lexSign key a c < 0) := by
  simp only [lexSign_nonpos_iff, lexSign_neg_iff]
  exact ⟨List.le_trans, fun h1 h2 => Classical.byContradiction fun h => h2 (List.lt_of_le_of_lt h h1), List.lt_of_le_of_lt⟩

theorem LexLt_nil_left (lt : Nat → Nat → Prop) (b : List Nat) : LexLt lt [] b ↔ b ≠ [] := by
  constructor
  · rintro ⟨p, ⟨y, t, h1, h2⟩ | ⟨x, y, s, t, h1, _, _⟩⟩
    · rw [h2]; simp
    · simp at h1
  · intro h
    cases b with
    | nil => exact absurd rfl h
    | cons y ys => exact ⟨[], Or.inl ⟨y, ys, rfl, rfl⟩⟩

theorem not_LexLt_nil_right (lt : Nat → Nat → Prop) (a : List Nat) : ¬ LexLt lt a [] := by
  rintro ⟨p, ⟨y, t, _, h2⟩ | ⟨x, y, s, t, _, h2, _⟩⟩ <;> simp at h2

theorem LexLt_cons (lt : Nat → Nat → Prop) (x y : Nat) (xs ys : List Nat) :
    LexLt lt (x :: xs) (y :: ys) ↔ lt x y ∨ (x = y ∧ LexLt lt xs ys) := by
  constructor
  · rintro ⟨p, h⟩
    cases p with
    | nil =>
      rcases h with ⟨y', t, e1, _⟩ | ⟨x', y', s, t, e1, e2, hlt⟩
      · cases e1
      · simp only [List.nil_append, List.cons.injEq] at e1 e2
        rw [e1.1, e2.1]; exact Or.inl hlt
    | cons q qs =>
      -- the common prefix starts with `q = x = y`; the rest of it is the common prefix of the rests
      rcases h with ⟨y', t, e1, e2⟩ | ⟨x', y', s, t, e1, e2, hlt⟩
      all_goals simp only [List.cons_append, List.cons.injEq] at e1 e2
      · exact Or.inr ⟨e1.1.trans e2.1.symm, qs, Or.inl ⟨y', t, e1.2, e2.2⟩⟩
      · exact Or.inr ⟨e1.1.trans e2.1.symm, qs, Or.inr ⟨x', y', s, t, e1.2, e2.2, hlt⟩⟩
  · rintro (hlt | ⟨rfl, p, h⟩)
    · exact ⟨[], Or.inr ⟨x, y, xs, ys, rfl, rfl, hlt⟩⟩
    · refine ⟨x :: p, ?_⟩
      rcases h with ⟨y', t, e1, e2⟩ | ⟨x', y', s, t, e1, e2, hlt⟩
      · exact Or.inl ⟨y', t, by rw [e1], by rw [e2]; rfl⟩
      · exact Or.inr ⟨x', y', s, t, by rw [e1]; rfl, by rw [e2]; rfl, hlt⟩

theorem lexSign_neg_iff_LexLt (key : Nat → Int) (inj : ∀ x y, key x = key y → x = y) (a b : List Nat) :
    lexSign key a b = -1 ↔ LexLt (fun x y => key x < key y) a b := by
  fun_induction lexSign key a b
  -- an operand is empty: `[] []`, `[] (_ :: _)`, `(_ :: _) []`
  case case1 => simp [LexLt_nil_left]
  case case2 => simp [LexLt_nil_left]
  case case3 => simp [not_LexLt_nil_right]
  -- first units `x`, `y` with `key x < key y`
  case case4 hlt => simp [LexLt_cons, hlt]
  -- `key y < key x`
  case case5 x _ y _ hnlt hgt =>
    have : x ≠ y := fun e => Int.lt_irrefl _ (e ▸ hgt)
    simp [LexLt_cons, hnlt, this]
  -- equal keys at the first units: the rests decide
  case case6 x _ y _ hnlt hngt ih =>
    have : x = y := inj x y (Int.le_antisymm (Int.not_lt.1 hngt) (Int.not_lt.1 hnlt))
    simp [LexLt_cons, ih, this]

theorem unsignedKey_inj (x y : Nat) (h : unsignedKey x = unsignedKey y) : x = y := by
  unfold unsignedKey at h; omega

theorem lengthOrder_self (n : Nat) : lengthOrder n n = 0 := by simp [lengthOrder]

theorem lengthOrder_succ (m n : Nat) : lengthOrder (m + 1) (n + 1) = lengthOrder m n := by
  simp [lengthOrder]

theorem lexSign_decomp (key : Nat → Int) (a b : List Nat) :
    lexSign key a b =
      (let m := min a.length b.length
       let c := lexSign key (a.take m) (b.take m)
       if c ≠ 0 then c else lengthOrder a.length b.length) := by
  induction a generalizing b with
  | nil => cases b <;> simp [lexSign, lengthOrder]
  | cons x xs ih =>
    cases b with
    | nil => simp [lexSign, lengthOrder]
    | cons y ys =>
      simp only [List.length_cons, Nat.add_min_add_right, List.take_succ_cons, lexSign]
      by_cases h1 : key x < key y
      · simp [h1]
      · by_cases h2 : key y < key x
        · simp [h1, h2]
        · simp only [h1, h2, if_false]
          rw [ih ys, lengthOrder_succ]

end StVerif.Lemmas.CompareSpec
