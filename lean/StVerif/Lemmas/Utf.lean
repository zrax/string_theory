/-
  Per-scalar facts behind C01–C03: the shifted and or-ed payloads are the `/ %` arithmetic of the
  specification, error flags cannot be mistaken for values, and `write_utf8` / `write_utf16` / the
  measures produce the standard encodings and their lengths.
-/
import StVerif.Bits
import StVerif.Model.Utf
import StVerif.Spec.Unicode

namespace StVerif.Lemmas.Utf
open StVerif.Utf StVerif.Bits StVerif.Generated
open StVerif.Spec.Unicode

theorem hibit_iff {b : Nat} (h : b < 256) : (b &&& 0x80 ≠ 0) = (0x80 ≤ b) := by
  -- the mask 0x80 is the one bit above bit 7, and 0 = 0 * 2^7 says that it is clear
  rw [ne_eq, and_mask_eq_iff 1 7 0 h]; exact propext (by omega)

theorem isCont_range {b : Nat} (h : isCont b = true) : 0x80 ≤ b ∧ b < 0xC0 := by
  simpa [isCont] using h

theorem val2 (b0 b1 : Nat) : ((b0 &&& 0x1F) <<< 6) ||| (b1 &&& 0x3F) = b0 % 32 * 64 + b1 % 64 := by
  rw [shl_or_and_low _ _ 6, and_1F]

theorem val3 (b0 b1 b2 : Nat) :
    ((b0 &&& 0x0F) <<< 12) ||| ((b1 &&& 0x3F) <<< 6) ||| (b2 &&& 0x3F) = (b0 % 16 * 64 + b1 % 64) * 64 + b2 % 64 := by
  rw [shl_or_shl _ _ 6 6, shl_or_and_low _ _ 6, shl_or_and_low _ _ 6, and_0F]

theorem val4 (b0 b1 b2 b3 : Nat) :
    ((b0 &&& 0x07) <<< 18) ||| ((b1 &&& 0x3F) <<< 12) ||| ((b2 &&& 0x3F) <<< 6) ||| (b3 &&& 0x3F)
      = ((b0 % 8 * 64 + b1 % 64) * 64 + b2 % 64) * 64 + b3 % 64 := by
  rw [shl_or_shl _ _ 6 12, shl_or_shl _ _ 6 6, shl_or_and_low _ _ 6, shl_or_and_low _ _ 6, shl_or_and_low _ _ 6, and_07]

theorem val16_hl (u0 u1 : Nat) (h0 : 0xD800 ≤ u0 ∧ u0 < 0xDC00) (h1 : 0xDC00 ≤ u1 ∧ u1 < 0xE000) :
    0x10000 + ((u0 &&& 0x3FF) <<< 10) + (u1 &&& 0x3FF) = 0x10000 + (u0 - 0xD800) * 1024 + (u1 - 0xDC00) := by
  rw [and_3FF, and_3FF, Nat.shiftLeft_eq, mod_of_range 1024 (by decide) h0, mod_of_range 1024 (by decide) h1]

theorem val16_lh (u0 u1 : Nat) (h0 : 0xDC00 ≤ u0 ∧ u0 < 0xE000) (h1 : 0xD800 ≤ u1 ∧ u1 < 0xDC00) :
    0x10000 + (u0 &&& 0x3FF) + ((u1 &&& 0x3FF) <<< 10) = 0x10000 + (u0 - 0xDC00) + (u1 - 0xD800) * 1024 := by
  rw [Nat.add_right_comm, val16_hl u1 u0 h1 h0, Nat.add_right_comm]

theorem charError_of_lt {v : Nat} (h : v < 0x400000) : charError v = 0 := by
  unfold charError; rw [and_two_pow_of_lt v 22 h]; simp

theorem charError_errorChar : charError (errorChar errIncompleteUtf8) = errIncompleteUtf8 ∧
    charError (errorChar errInvalidUtf8) = errInvalidUtf8 ∧
    charError (errorChar errIncompleteSurrogate) = errIncompleteSurrogate := by decide

theorem errorChar_gt : errorChar errIncompleteUtf8 > 0x10FFFF ∧ errorChar errInvalidUtf8 > 0x10FFFF ∧
    errorChar errIncompleteSurrogate > 0x10FFFF := by decide

theorem cont_byte (x : Nat) : 0x80 ||| (x &&& 0x3F) = 0x80 + x % 64 := or_and_low 0x80 x 6 (by decide)
theorem lead2_byte (x : Nat) : 0xC0 ||| (x &&& 0x1F) = 0xC0 + x % 32 := or_and_low 0xC0 x 5 (by decide)
theorem lead3_byte (x : Nat) : 0xE0 ||| (x &&& 0x0F) = 0xE0 + x % 16 := or_and_low 0xE0 x 4 (by decide)
theorem lead4_byte (x : Nat) : 0xF0 ||| (x &&& 0x07) = 0xF0 + x % 8 := or_and_low 0xF0 x 3 (by decide)
theorem high_unit (x : Nat) : 0xD800 ||| (x &&& 0x3FF) = 0xD800 + x % 1024 := or_and_low 0xD800 x 10 (by decide)
theorem low_unit (x : Nat) : 0xDC00 ||| (x &&& 0x3FF) = 0xDC00 + x % 1024 := or_and_low 0xDC00 x 10 (by decide)

theorem writeUtf8_eq (c : Nat) (h : c ≤ 0x10FFFF) : writeUtf8 c = some (encUtf8 c) := by
  unfold writeUtf8 encUtf8
  simp only [cont_byte, lead2_byte, lead3_byte, lead4_byte, Nat.shiftRight_eq_div_pow, Nat.reducePow]
  -- what is left in each branch: the lead byte's payload is already below its mask
  -- (one test at a time: `split` on the whole ladder is slow to check)
  by_cases h1 : c < 0x80
  · simp only [h1, ↓reduceIte]
  by_cases h2 : c < 0x800
  · simp only [h1, h2, ↓reduceIte, Nat.mod_eq_of_lt (Nat.div_lt_of_lt_mul h2 : c / 64 < 32)]
  by_cases h3 : c < 0x10000
  · simp only [h1, h2, h3, ↓reduceIte, Nat.mod_eq_of_lt (Nat.div_lt_of_lt_mul h3 : c / 4096 < 16)]
  · simp only [h1, h2, h3, h, ↓reduceIte, Nat.mod_eq_of_lt (Nat.div_lt_of_lt_mul (by omega) : c / 262144 < 8)]

theorem writeUtf8_none (c : Nat) (h : c > 0x10FFFF) : writeUtf8 c = none := by
  unfold writeUtf8
  rw [if_neg (by omega), if_neg (by omega), if_neg (by omega), if_neg (by omega)]

theorem writeUtf16_eq (c : Nat) (h : c ≤ 0x10FFFF) : writeUtf16 c = some (encUtf16 c) := by
  unfold writeUtf16 encUtf16
  simp only [high_unit, low_unit, Nat.shiftRight_eq_div_pow, Nat.reducePow]
  by_cases h1 : c < 0x10000
  · simp only [h1, ↓reduceIte]
  · simp only [h1, h, ↓reduceIte, Nat.mod_eq_of_lt (Nat.div_lt_of_lt_mul (by omega) : (c - 65536) / 1024 < 1024)]

theorem writeUtf16_none (c : Nat) (h : c > 0x10FFFF) : writeUtf16 c = none := by
  unfold writeUtf16
  rw [if_neg (by omega), if_neg (by omega)]

theorem encUtf8_length (c : Nat) : (encUtf8 c).length = if c < 0x80 then 1 else if c < 0x800 then 2 else if c < 0x10000 then 3 else 4 := by
  unfold encUtf8
  simp only [apply_ite List.length, List.length_cons, List.length_nil]

theorem utf8Measure_eq (c : Nat) (h : c ≤ 0x10FFFF) : utf8Measure c = (encUtf8 c).length := by
  rw [encUtf8_length]; unfold utf8Measure
  simp only [h, ↓reduceIte]

theorem utf16Measure_eq (c : Nat) (h : c ≤ 0x10FFFF) : utf16Measure c = (encUtf16 c).length := by
  unfold utf16Measure encUtf16
  by_cases h1 : c < 0x10000
  · simp [h1]
  · rw [if_neg (by omega), if_neg h1]; rfl

theorem writeUtf8_eq_none_iff {ch : Nat} : writeUtf8 ch = none ↔ ch > 0x10FFFF :=
  ⟨fun h => Nat.lt_of_not_le fun hc => (by rw [writeUtf8_eq ch hc] at h; cases h), writeUtf8_none ch⟩

theorem writeUtf8_length {ch : Nat} {bytes : List Nat} (h : writeUtf8 ch = some bytes) : bytes.length = utf8Measure ch := by
  by_cases hc : ch ≤ 0x10FFFF
  · rw [writeUtf8_eq ch hc] at h; cases h; exact (utf8Measure_eq ch hc).symm
  · rw [writeUtf8_none ch (by omega)] at h; cases h

theorem utf8Measure_gt {ch : Nat} (h : ch > 0x10FFFF) : utf8Measure ch = 3 := by
  unfold utf8Measure; rw [if_neg (by omega), if_neg (by omega), if_neg (by omega), if_neg (by omega)]; rfl

theorem utf16Measure_gt {ch : Nat} (h : ch > 0x10FFFF) : utf16Measure ch = 1 := by
  unfold utf16Measure; rw [if_pos (.inr h)]

theorem utf8Measure_pos (ch : Nat) : 0 < utf8Measure ch := by
  unfold utf8Measure
  simp only [apply_ite (0 < ·), show 0 < badcharSubstituteUtf8.length from by decide, Nat.zero_lt_succ, ite_self]

theorem utf16Measure_pos (ch : Nat) : 0 < utf16Measure ch := by
  unfold utf16Measure
  simp only [apply_ite (0 < ·), Nat.zero_lt_succ, ite_self]

theorem utf8Measure_le (ch : Nat) : utf8Measure ch ≤ 4 := by
  unfold utf8Measure
  simp only [apply_ite (· ≤ 4), show badcharSubstituteUtf8.length ≤ 4 from by decide, Nat.reduceLeDiff, Nat.le_refl, ite_self]

theorem utf16Measure_le (ch : Nat) : utf16Measure ch ≤ 2 := by
  unfold utf16Measure
  simp only [apply_ite (· ≤ 2), Nat.reduceLeDiff, Nat.le_refl, ite_self]

end StVerif.Lemmas.Utf
