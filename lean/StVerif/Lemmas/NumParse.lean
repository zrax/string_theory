/-
  The parsing half of C12: the transcription of glibc's strtol (Model/Num.lean) computes the declarative
  numeral prefix of Spec/Digits.lean (`parseSpec`) with the standard saturation, on every text and for every
  base: `strtol_eq`, `strtoul_eq`.  Phase by phase: the accumulation loop in closed form (`strtoLoop_spec`),
  the prefix phase (`numeralBody_eq`), white space and sign (`strtoScan_reads`), saturation.  Last, the `to_*`
  members of the string in terms of `strtol` / `strtoul`, one case each (`toIntTyR_signed` … `toUlongR_lt`).
-/
import StVerif.Lemmas.Num
namespace StVerif.Lemmas.NumParse
open StVerif.Num StVerif.Spec.Digits StVerif.Lemmas.Digits

theorem digitOf_eq_digitVal (c : Nat) : digitOf c = digitVal c := by
  unfold digitOf digitVal isAlpha toUpper
  by_cases h1 : 48 ≤ c ∧ c ≤ 57
  · simp [h1]
  · by_cases h2 : 65 ≤ c ∧ c ≤ 90
    · have : ¬ (97 ≤ c ∧ c ≤ 122) := by omega
      simp [h1, h2, this]; omega
    · by_cases h3 : 97 ≤ c ∧ c ≤ 122
      · simp [h1, h2, h3]; omega
      · simp [h1, h2, h3]

theorem digitOf_digitChar (upper : Bool) (d : Nat) (h : d < 36) : digitOf (digitChar upper d) = some d := by
  rw [digitOf_eq_digitVal, digitVal_digitChar upper d h]

theorem isSpace_eq (c : Nat) : Num.isSpace c = Spec.Digits.isSpace c := rfl

def accum (b : Nat) (run : List Nat) (i : Nat) : Nat := (run.map fun c => (digitVal c).getD 0).foldl (fun acc d => acc * b + d) i

theorem accum_nil (b i : Nat) : accum b [] i = i := rfl
theorem accum_cons (b c : Nat) (run : List Nat) (i : Nat) : accum b (c :: run) i = accum b run (i * b + (digitVal c).getD 0) := rfl

theorem accum_zero (b : Nat) (run : List Nat) : accum b run 0 = runValue b run := rfl

/-- glibc's overflow test before taking in the digit `d` (`i > cutoff || (i == cutoff && d > cutlim)` with
    `cutoff = M / b`, `cutlim = M % b`) fires exactly when the new value would exceed `M` -/
theorem overflow_test_iff (M b i d : Nat) (hb : 0 < b) (hd : d < b) :
    (i > M / b ∨ (i = M / b ∧ d > M % b)) ↔ M < i * b + d := by
  have hdm : M / b * b + M % b = M := by rw [Nat.mul_comm]; exact Nat.div_add_mod M b
  have hr : M % b < b := Nat.mod_lt _ hb
  rcases Nat.lt_trichotomy i (M / b) with h | h | h
  · have := Nat.mul_le_mul_right b (Nat.succ_le_of_lt h)
    rw [Nat.succ_mul] at this
    omega
  · subst h; omega
  · have := Nat.mul_le_mul_right b (Nat.succ_le_of_lt h)
    rw [Nat.succ_mul] at this
    omega

theorem strtoLoop_cons (b q r c : Nat) (rest : List Nat) (i n : Nat) (ovf : Bool) :
    strtoLoop b q r (c :: rest) i ovf n =
      if isDigitOf b c = true then
        (if i > q ∨ (i = q ∧ (digitVal c).getD 0 > r) then strtoLoop b q r rest i true (n + 1)
         else strtoLoop b q r rest (i * b + (digitVal c).getD 0) ovf (n + 1))
      else (i, ovf, n) := by
  rw [strtoLoop, digitOf_eq_digitVal]
  unfold isDigitOf
  cases digitVal c with
  | none => rfl
  | some d =>
    dsimp only [Option.getD_some]
    by_cases h : d < b
    · rw [if_neg (Nat.not_le.mpr h), if_pos (decide_eq_true h)]
    · rw [if_pos (Nat.le_of_not_lt h), if_neg (by rw [decide_eq_false h]; decide)]

theorem getD_lt_of_isDigitOf {b c : Nat} (h : isDigitOf b c = true) : (digitVal c).getD 0 < b := by
  unfold isDigitOf at h
  split at h
  · next d hd => rw [hd]; exact of_decide_eq_true h
  · exact absurd h (by decide)

theorem strtoLoop_spec (M b : Nat) : ∀ (s : List Nat) (i n : Nat) (ovf : Bool), i ≤ M →
    ∀ run, s.takeWhile (isDigitOf b) = run → ∀ L, strtoLoop b (M / b) (M % b) s i ovf n = L →
      L.2.2 = n + run.length ∧ L.2.1 = (ovf || decide (M < accum b run i)) ∧
      (accum b run i ≤ M → L.1 = accum b run i) ∧ L.1 ≤ M := by
  have stop : ∀ (i n : Nat) (ovf : Bool), i ≤ M →
      n = n + ([] : List Nat).length ∧ ovf = (ovf || decide (M < accum b [] i)) ∧
      (accum b [] i ≤ M → i = accum b [] i) ∧ i ≤ M := fun i n ovf hi =>
    ⟨rfl, by rw [accum_nil, decide_eq_false (Nat.not_lt.mpr hi), Bool.or_false], fun _ => rfl, hi⟩
  intro s
  induction s with
  | nil =>
    rintro i n ovf hi _ rfl _ rfl
    exact stop i n ovf hi
  | cons c rest ih =>
    rintro i n ovf hi _ rfl _ rfl
    rw [strtoLoop_cons]
    cases hc : isDigitOf b c with
    | false =>
      rw [if_neg (by decide), List.takeWhile_cons_of_neg (by rw [hc]; decide)]
      exact stop i n ovf hi
    | true =>
      have hlt := getD_lt_of_isDigitOf hc
      rw [if_pos rfl, List.takeWhile_cons_of_pos hc, accum_cons, List.length_cons]
      generalize (digitVal c).getD 0 = d at hlt ⊢
      have hb := Nat.zero_lt_of_lt hlt
      have hge : i * b + d ≤ accum b (rest.takeWhile (isDigitOf b)) (i * b + d) := horner_ge b hb _ _
      by_cases hover : M < i * b + d
      · -- the flag stays up from here on
        rw [if_pos ((overflow_test_iff M b i d hb hlt).mpr hover)]
        obtain ⟨h1, h2, _, h4⟩ := ih i (n + 1) true hi _ rfl _ rfl
        have hM := Nat.lt_of_lt_of_le hover hge
        refine ⟨h1.trans (Nat.succ_add_eq_add_succ n _), ?_, fun h => absurd hM (Nat.not_lt.mpr h), h4⟩
        rw [h2, decide_eq_true hM, Bool.true_or, Bool.or_true]
      · rw [if_neg (mt (overflow_test_iff M b i d hb hlt).mp hover)]
        obtain ⟨h1, h2, h3, h4⟩ := ih (i * b + d) (n + 1) ovf (Nat.le_of_not_lt hover) _ rfl _ rfl
        exact ⟨h1.trans (Nat.succ_add_eq_add_succ n _), h2, h3, h4⟩

theorem isX_iff (x : Nat) : isX x = true ↔ toUpper x = 88 := by
  unfold isX
  rw [Bool.or_eq_true, beq_iff_eq, beq_iff_eq]
  constructor
  · rintro (rfl | rfl) <;> rfl
  · unfold toUpper
    by_cases h : 97 ≤ x ∧ x ≤ 122
    · rw [if_pos h]; intro hx; exact Or.inl (by omega)
    · rw [if_neg h]; exact Or.inr

theorem zero_is_digit (b : Nat) (hb : 2 ≤ b) : isDigitOf b 48 = true := by
  simp [isDigitOf, digitVal]; omega

/-- the model's test for a `0x` / `0X` to skip: base 16 or 0, a `0`, an `x`; what follows is not looked at -/
def Sees0x (base : Nat) (r : List Nat) : Prop :=
  (base = 0 ∨ base = 16) ∧ ∃ x rest, r = 48 :: x :: rest ∧ toUpper x = 88

theorem basePrefix_of_sees {base : Nat} {r : List Nat} (h : Sees0x base r) : basePrefix base r = (16, 2) := by
  obtain ⟨hb, x, rest, rfl, hx⟩ := h
  simp [basePrefix, hb, hx]

theorem hasHexPrefix_of_not_sees {base : Nat} {r : List Nat} (h : ¬ Sees0x base r) : hasHexPrefix base r = false := by
  apply Bool.eq_false_iff.mpr
  intro hh
  obtain ⟨hb, x, d, t, rfl, hx, _⟩ := hasHexPrefix_elim hh
  exact h ⟨hb, x, d :: t, rfl, (isX_iff x).mp hx⟩

theorem basePrefix_of_not_sees {base : Nat} {r : List Nat} (h : ¬ Sees0x base r) :
    basePrefix base r = (effectiveBase base r, 0) := by
  unfold basePrefix effectiveBase
  rw [hasHexPrefix_of_not_sees h]
  rcases r with _ | ⟨a, t⟩
  · by_cases hb : base = 0 <;> simp [hb]
  · by_cases ha : a = 48
    · subst ha
      have hc : ¬((base = 0 ∨ base = 16) ∧ toUpper ((48 :: t).getD 1 0) = 88) := by
        rintro ⟨hb, ht⟩
        cases t with
        | nil => exact absurd ht (by decide)
        | cons x rest => exact h ⟨hb, x, rest, rfl, ht⟩
      rw [if_pos (show (48 :: t).head? = some 48 from rfl), if_neg hc]
      by_cases hb : base = 0 <;> simp [hb]
    · by_cases hb : base = 0 <;> simp [ha, hb]

theorem basePrefix_snd (base : Nat) (r : List Nat) :
    ((basePrefix base r).2 = 2 ∧ r.getD 0 0 = 48 ∧ toUpper (r.getD 1 0) = 88) ∨ (basePrefix base r).2 = 0 := by
  by_cases h : Sees0x base r
  · rw [basePrefix_of_sees h]
    obtain ⟨_, x, rest, rfl, hx⟩ := h
    exact Or.inl ⟨rfl, rfl, hx⟩
  · rw [basePrefix_of_not_sees h]
    exact Or.inr rfl

/-- The model skips `0x` whenever it sees one; the specification counts it as a prefix only in
    front of a hexadecimal digit and otherwise reads the `0` alone.  So, in terms of what the model skipped: -/
theorem numeralBody_eq (base : Nat) (r : List Nat) (bp : Nat × Nat) (hbp : basePrefix base r = bp)
    (run : List Nat) (hrun : (r.drop bp.2).takeWhile (isDigitOf bp.1) = run) :
    numeralBody base r =
      if run.isEmpty then (if bp.2 = 2 then some (0, 1) else none) else some (runValue bp.1 run, bp.2 + run.length) := by
  subst hbp hrun
  by_cases hx : Sees0x base r
  · rw [basePrefix_of_sees hx]
    obtain ⟨hb, x, rest, rfl, hx⟩ := hx
    have hbb : (base == 0 || base == 16) = true := by simpa using hb
    dsimp only [List.drop_succ_cons, List.drop_zero]
    have hhex : hasHexPrefix base (48 :: x :: rest) = !(rest.takeWhile (isDigitOf 16)).isEmpty := by
      cases rest with
      | nil => simp [hasHexPrefix]
      | cons d rest' =>
        show ((base == 0 || base == 16) && (isX x && isDigitOf 16 d)) = _
        rw [hbb, (isX_iff x).mpr hx, List.takeWhile_cons]
        cases isDigitOf 16 d <;> rfl
    cases hrun : (rest.takeWhile (isDigitOf 16)).isEmpty with
    | false =>
      rw [hrun] at hhex
      have hb16 : effectiveBase base (48 :: x :: rest) = 16 := by
        unfold effectiveBase; rw [hhex]; rcases hb with h | h <;> simp [h]
      simp [numeralBody, hhex, hb16, hrun]
    | true =>
      -- no hexadecimal digit follows: the specification reads the `0` in base 8 or 16 and stops at the `x`
      rw [hrun] at hhex
      have hb16 : 2 ≤ effectiveBase base (48 :: x :: rest) ∧ effectiveBase base (48 :: x :: rest) ≤ 16 := by
        unfold effectiveBase; rw [hhex]; rcases hb with h | h <;> simp [h]
      have hxd := isX_not_digit x ((isX_iff x).mpr hx) _ (Nat.le_trans hb16.2 (by decide))
      simp [numeralBody, hhex, hrun, zero_is_digit _ hb16.1, hxd, runValue, ofDigits, digitVal]
  · rw [basePrefix_of_not_sees hx]
    simp [numeralBody, hasHexPrefix_of_not_sees hx]

/-- what the scan found, read as a numeral: the simulation relation between `strtoScan` and `parseCore`, with one
    case for each exit of the C function -/
inductive Reads : Scan → Numeral → Prop where
  /-- the `noconv` exit with `endptr` at offset `e`: nothing read, or the `0` of a `0x` without digits -/
  | noconv (e : Nat) (neg : Bool) :
      Reads { negative := false, i := 0, overflow := false, endp := e, conv := false }
        { negative := neg, magnitude := 0, consumed := e }
  /-- a conversion: `i` is the magnitude `m` unless `m` exceeds `ULONG_MAX`, and then the flag is up -/
  | conv (neg : Bool) (i m e : Nat) (hi : m ≤ ULONG_MAX → i = m) (hle : i ≤ ULONG_MAX) :
      Reads { negative := neg, i := i, overflow := decide (ULONG_MAX < m), endp := e, conv := true }
        { negative := neg, magnitude := m, consumed := e }

theorem Reads.endp {sc : Scan} {n : Numeral} (h : Reads sc n) : sc.endp = n.consumed := by
  cases h <;> rfl

theorem Reads.i_le {sc : Scan} {n : Numeral} (h : Reads sc n) : sc.i ≤ ULONG_MAX := by
  cases h with
  | noconv => exact Nat.zero_le _
  | conv _ _ _ _ _ hle => exact hle

theorem getD_drop (l : List Nat) (a j : Nat) : (l.drop a).getD j 0 = l.getD (a + j) 0 := by
  simp [List.getD_eq_getElem?_getD, List.getElem?_drop]

theorem takeWhile_getD {α : Type} (p : α → Bool) (d : α) (l : List α) (i : Nat) (h : i < (l.takeWhile p).length) :
    p (l.getD i d) = true := by
  have hpre := List.takeWhile_prefix (l := l) p
  have hi : i < l.length := Nat.lt_of_lt_of_le h hpre.length_le
  rw [List.getD_eq_getElem?_getD, List.getElem?_eq_getElem hi, Option.getD_some, ← hpre.getElem h]
  exact takeWhile_all p l _ (List.getElem_mem h)

theorem space_not_x (c : Nat) (h : Spec.Digits.isSpace c = true) : toUpper c ≠ 88 := by
  have hc : c < 33 := Nat.lt_of_not_le fun hge => by rw [isSpace_of_ge hge] at h; exact absurd h (by decide)
  unfold toUpper
  rw [if_neg (by omega)]
  omega

theorem signAt_eq_signOf (c0 : Nat) (t : List Nat) : signAt c0 = signOf (c0 :: t) := by
  unfold signAt signOf
  by_cases h1 : c0 = 45
  · subst h1; rfl
  · by_cases h2 : c0 = 43
    · subst h2; rfl
    · simp [h1, h2]

theorem signAt_snd (c0 : Nat) : ((signAt c0).2 = 1 ∧ (c0 = 45 ∨ c0 = 43)) ∨ (signAt c0).2 = 0 := by
  unfold signAt
  split
  · next h => exact Or.inl ⟨rfl, Or.inl h⟩
  · split
    · next h => exact Or.inl ⟨rfl, Or.inr h⟩
    · exact Or.inr rfl

theorem numeralBody_nil (base : Nat) : numeralBody base [] = none := by simp [numeralBody, hasHexPrefix]

theorem strtoScan_reads (base : Nat) (s : List Nat) : Reads (strtoScan s base) (parseCore base s) := by
  unfold strtoScan parseCore
  rw [show Num.isSpace = Spec.Digits.isSpace from funext isSpace_eq]
  dsimp only
  generalize hp0 : (s.takeWhile Spec.Digits.isSpace).length = p0
  cases hr : s.drop p0 with
  | nil =>
    rw [List.drop_nil, numeralBody_nil]
    exact .noconv 0 false
  | cons c0 t =>
    dsimp only
    rw [← signAt_eq_signOf c0 t]
    generalize hsg : signAt c0 = sg
    -- the character in front of the digits part is a sign or white space, never an `x`
    have hbefore : 1 ≤ p0 + sg.2 → toUpper (s.getD (p0 + sg.2 - 1) 0) ≠ 88 := by
      intro hge
      rcases hsg ▸ signAt_snd c0 with ⟨h1, hc⟩ | h0
      · have hc0 : s.getD p0 0 = c0 := by
          have := getD_drop s p0 0; rw [hr] at this; exact this.symm
        rw [h1, Nat.add_sub_cancel, hc0]
        rcases hc with rfl | rfl <;> decide
      · rw [h0, Nat.add_zero] at hge ⊢
        exact space_not_x _ (takeWhile_getD Spec.Digits.isSpace 0 s (p0 - 1) (by omega))
    rw [← hr, List.drop_drop]
    -- from here on only the offset `p` of the digits part matters
    generalize p0 + sg.2 = p at hbefore ⊢
    generalize hbp : basePrefix base (s.drop p) = bp
    generalize hrun : ((s.drop p).drop bp.2).takeWhile (isDigitOf bp.1) = run
    rw [numeralBody_eq base (s.drop p) bp hbp run hrun]
    rw [List.drop_drop] at hrun
    generalize hL : strtoLoop bp.1 (ULONG_MAX / bp.1) (ULONG_MAX % bp.1) (s.drop (p + bp.2)) 0 false 0 = L
    obtain ⟨h1, h2, h3, h4⟩ := strtoLoop_spec ULONG_MAX bp.1 _ 0 0 false (Nat.zero_le _) run hrun L hL
    rw [Nat.zero_add] at h1
    cases run with
    | nil =>
      rw [if_pos (show L.2.2 = 0 from h1), if_pos (show ([] : List Nat).isEmpty = true from rfl)]
      rcases hbp ▸ basePrefix_snd base (s.drop p) with ⟨h2, h48, hx⟩ | h0
      · -- `0x` was skipped and no hexadecimal digit follows: `endptr` is left at the `x`
        rw [getD_drop] at h48 hx
        rw [h2, if_pos (show 2 = 2 from rfl), if_pos ⟨Nat.le_add_left 2 p, hx, h48⟩]
        exact .noconv _ _
      · rw [h0, Nat.add_zero, if_neg (show ¬ 0 = 2 by decide), if_neg (fun h => hbefore (Nat.le_of_succ_le h.1) h.2.1)]
        exact .noconv 0 false
    | cons c run' =>
      rw [if_neg (by rw [h1]; exact Nat.succ_ne_zero _), if_neg (show ¬ (c :: run').isEmpty = true by simp)]
      rw [h1, h2, Bool.false_or, Nat.add_assoc]
      exact .conv sg.1 L.1 _ _ h3 h4

theorem strtol_eq (base : Nat) (s : List Nat) :
    (strtol s base).value = clampSigned 64 (parseSpec base s) ∧ (strtol s base).endp = (parseSpec base s).consumed := by
  have h : Reads (strtoScan (cstr s) base) (parseSpec base s) := strtoScan_reads base (cstr s)
  unfold strtol
  generalize parseSpec base s = n at h
  generalize strtoScan (cstr s) base = sc at h
  cases h with
  | noconv e neg => exact ⟨(clampSigned_zero 64 _ rfl).symm, rfl⟩
  | conv neg i m e hi _ =>
    dsimp only
    rw [if_neg (by decide), apply_ite StrtoRes.value, apply_ite StrtoRes.endp, ite_self]
    refine ⟨?_, rfl⟩
    -- the saturation arithmetic, by sign: either the magnitude is within the bound for that sign, then `i` is the
    -- magnitude and nothing saturates, or both sides saturate
    unfold LONG_MIN LONG_MAX
    unfold ULONG_MAX at hi ⊢
    cases neg
    · simp only [Bool.false_eq_true, if_false, Bool.or_eq_true, decide_eq_true_eq]
      by_cases h : m < 2 ^ 63
      · obtain rfl := hi (Nat.le_trans (Nat.le_of_lt h) (by decide))
        rw [if_neg (by omega), toSigned_natCast (w := 64) (by decide) h]
        symm
        exact clampSigned_fits (v := (i : Int)) rfl (by omega) (by omega)
      · unfold clampSigned
        simp only [Bool.false_eq_true, if_false]
        rw [if_pos (by omega), if_neg (by omega), if_pos (by omega)]
    · simp only [if_true, Bool.or_eq_true, decide_eq_true_eq]
      by_cases h : m ≤ 2 ^ 63
      · obtain rfl := hi (Nat.le_trans h (by decide))
        have hlo : -(2 ^ (64 - 1) : Int) ≤ -(i : Int) := by omega
        have hhi : -(i : Int) < 2 ^ (64 - 1) := by omega
        rw [if_neg (by omega), toSigned_wrapW (by decide) (Nat.le_refl 64) hlo hhi]
        symm
        exact clampSigned_fits rfl hlo hhi
      · unfold clampSigned
        simp only [if_true]
        rw [if_pos (by omega), if_pos (by omega)]

theorem strtoul_eq (base : Nat) (s : List Nat) :
    (strtoul s base).value = clampUnsigned 64 (parseSpec base s) ∧ (strtoul s base).endp = (parseSpec base s).consumed := by
  have h : Reads (strtoScan (cstr s) base) (parseSpec base s) := strtoScan_reads base (cstr s)
  unfold strtoul
  generalize parseSpec base s = n at h
  generalize strtoScan (cstr s) base = sc at h
  cases h with
  | noconv e neg => exact ⟨(clampUnsigned_zero 64 _ rfl).symm, rfl⟩
  | conv neg i m e hi _ =>
    dsimp only
    rw [if_neg (by decide), apply_ite StrtoRes.value, apply_ite StrtoRes.endp, ite_self]
    refine ⟨?_, rfl⟩
    unfold clampUnsigned
    unfold ULONG_MAX at *
    dsimp only
    by_cases hM : 2 ^ 64 - 1 < m
    · rw [if_pos (decide_eq_true hM), if_pos hM]
    · rw [if_neg (by rw [decide_eq_false hM]; decide), if_neg hM, hi (Nat.le_of_not_lt hM)]
      cases neg
      · rfl
      · rw [if_pos rfl, if_pos rfl, wrapW_neg_natCast (by omega)]

theorem strtol_value_range (s : List Nat) (base : Nat) :
    -(2 ^ 63 : Int) ≤ (strtol s base).value ∧ (strtol s base).value < (2 ^ 63 : Int) :=
  (strtol_eq base s).1 ▸ clampSigned_range 64 _

theorem strtoul_value_lt (s : List Nat) (base : Nat) : (strtoul s base).value < 2 ^ 64 :=
  (strtoul_eq base s).1 ▸ clampUnsigned_lt 64 _

/-- glibc's overflow test cuts before the accumulator would leave `unsigned long`: holding it in a `Nat` loses no wrap-around -/
theorem strtoScan_i_le (s : List Nat) (base : Nat) : (strtoScan s base).i ≤ ULONG_MAX := (strtoScan_reads base s).i_le

theorem strtoScan_endp_le (s : List Nat) (base : Nat) : (strtoScan s base).endp ≤ s.length :=
  (strtoScan_reads base s).endp ▸ parseCore_consumed_le base s

theorem strtol_endp_le (s : List Nat) (base : Nat) : (strtol s base).endp ≤ s.length :=
  (strtol_eq base s).2 ▸ parseSpec_consumed_le base s

theorem strtoul_endp_le (s : List Nat) (base : Nat) : (strtoul s base).endp ≤ s.length :=
  (strtoul_eq base s).2 ▸ parseSpec_consumed_le base s

theorem cstr_eq (s : List Nat) (h : ∀ c ∈ s, c ≠ 0) : cstr s = s :=
  takeWhile_eq_self fun c hc => by simpa using h c hc

theorem cstr_length_le (s : List Nat) : (cstr s).length ≤ s.length := length_takeWhile_le _ _

theorem toIntTyR_signed {t : IntTy} (ht : t.signed = true) (s : List Nat) (base : Nat) :
    toIntTyR t s base = (toSigned t.bits (wrapW 64 (toLongR s base).1), (toLongR s base).2) :=
  if_pos ht

theorem toIntTyR_unsigned {t : IntTy} (ht : t.signed = false) (s : List Nat) (base : Nat) :
    toIntTyR t s base = ((((toUlongR s base).1 % 2 ^ t.bits : Nat) : Int), (toUlongR s base).2) :=
  if_neg (ht ▸ Bool.false_ne_true)

theorem toLongR_of_ne {s : List Nat} (h : s ≠ []) (base : Nat) :
    toLongR s base = ((strtol s base).value, flagsOf s.length (strtol s base).endp) :=
  if_neg (mt List.isEmpty_iff.mp h)

theorem toUlongR_of_ne {s : List Nat} (h : s ≠ []) (base : Nat) :
    toUlongR s base = ((strtoul s base).value, flagsOf s.length (strtoul s base).endp) :=
  if_neg (mt List.isEmpty_iff.mp h)

theorem toIntTy_eq_fst (t : IntTy) {s : List Nat} (h : s ≠ []) (base : Nat) : toIntTy t s base = (toIntTyR t s base).1 := by
  unfold toIntTy
  cases ht : t.signed with
  | true => rw [toIntTyR_signed ht, toLongR_of_ne h]; rfl
  | false => rw [toIntTyR_unsigned ht, toUlongR_of_ne h]; rfl

theorem toLongR_range (s : List Nat) (base : Nat) :
    -(2 ^ 63 : Int) ≤ (toLongR s base).1 ∧ (toLongR s base).1 < 2 ^ 63 := by
  unfold toLongR
  split
  · exact ⟨by decide, by decide⟩
  · exact strtol_value_range s base

theorem toUlongR_lt (s : List Nat) (base : Nat) : (toUlongR s base).1 < 2 ^ 64 := by
  unfold toUlongR
  split
  · decide
  · exact strtoul_value_lt s base

end StVerif.Lemmas.NumParse
