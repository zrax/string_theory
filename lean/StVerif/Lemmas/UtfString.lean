/-
  `ST::string` built from UTF-8 bytes: `set(char_buffer, validation)` per mode, what it can come back with
  (`stringSet_sat`), its agreement with the reference (`stringSet_eq_reference`), and what repair guarantees
  (`validate_cleanup`, `cleanup_of_valid`).
-/
import StVerif.Lemmas.UtfStd
import StVerif.Lemmas.Outcome

namespace StVerif.Lemmas.Utf
open StVerif.Utf StVerif.Generated
open StVerif.Spec.Unicode

def Seg.units : Seg → List Nat
  | .good _ us => us
  | .bad u => [u]

theorem seg_units_utf8 (xs : List Nat) : Bytes xs → (segUtf8 xs).flatMap Seg.units = xs := by
  induction xs using seq8_induction with
  | nil => intro _; rfl
  | seq r hs ih =>
    intro hb
    have hb := UnitsLt_append.1 hb
    rw [segUtf8_seq hs hb.1, List.flatMap_cons, ih hb.2]; rfl
  | bad hn ih =>
    intro hb
    rw [segUtf8_bad hn, List.flatMap_cons, ih (Bytes_cons.1 hb).2]; rfl

theorem stringSet_assume {xs : List Nat} (hlen : xs.length < hugeBufferSize) : stringSetUtf8 .assumeValid (some xs) = .ok xs := by
  simp only [stringSetUtf8, if_neg (by omega : ¬ xs.length ≥ hugeBufferSize)]

theorem stringSet_subst {xs : List Nat} (hlen : xs.length < hugeBufferSize) :
    stringSetUtf8 .substituteInvalid (some xs) = .ok (cleanupUtf8 xs) := by
  simp only [stringSetUtf8, if_neg (by omega : ¬ xs.length ≥ hugeBufferSize)]

theorem stringSet_check {xs : List Nat} (hlen : xs.length < hugeBufferSize) :
    stringSetUtf8 .checkValidity (some xs) = if validateUtf8 xs = 0 then .ok xs else .throw .unicodeError := by
  simp only [stringSetUtf8, if_neg (by omega : ¬ xs.length ≥ hugeBufferSize), ne_eq, ite_not]

/-- the assertion is the documented size limit of `ST::string` (2^28 bytes) -/
theorem stringSet_sat (m : Mode) (xs : List Nat) :
    Lemmas.Fmt.Sat (fun _ => True) (· = .unicodeError) (fun w => w = "String data buffer is too large" ∧ xs.length ≥ hugeBufferSize)
      (stringSetUtf8 m (some xs)) := by
  simp only [stringSetUtf8]
  split
  · rename_i h; exact ⟨rfl, h⟩
  · cases m with
    | assumeValid => trivial
    | substituteInvalid => trivial
    | checkValidity => simp only; split <;> simp [Lemmas.Fmt.Sat]

theorem refSteps_utf8_check (sgs : List Seg) :
    refSteps .utf8 .utf8 .checkValidity true sgs = if sgs.all Seg.isGood then some (sgs.flatMap Seg.units) else none := by
  induction sgs with
  | nil => rfl
  | cons sg l ih =>
    rw [refSteps, ih]
    cases sg with
    | good v us => by_cases h : l.all Seg.isGood = true <;> simp [refStep, Seg.isGood, Seg.units, h]
    | bad u => simp [refStep, Seg.isGood]

theorem refSteps_utf8_subst (sgs : List Seg) :
    refSteps .utf8 .utf8 .substituteInvalid true sgs = some (sgs.flatMap Seg.repair) :=
  refSteps_some Seg.repair fun sg _ => by cases sg <;> rfl

theorem stringSet_eq_reference (m : Mode) (xs : List Nat) (hb : Bytes xs) (hlen : xs.length < hugeBufferSize) :
    stringSetUtf8 m (some xs) = referenceString m xs := by
  cases m with
  | assumeValid => exact stringSet_assume hlen
  | substituteInvalid =>
    rw [stringSet_subst hlen, cleanup_eq_seg xs hb]
    exact (reference_ok_iff.2 (refSteps_utf8_subst _)).symm
  | checkValidity =>
    simp only [stringSet_check hlen, validate_iff_seg xs hb, referenceString, reference, seg, refSteps_utf8_check]
    split
    · rw [seg_units_utf8 xs hb]
    · rfl

theorem validate_cleanup (xs : List Nat) : validateUtf8 (cleanupUtf8 xs) = 0 := by
  induction xs using seq8_induction with
  | nil => rfl
  | seq r hs ih => rw [cleanupUtf8_seq hs, validateUtf8_seq hs]; exact ih
  | bad hn ih =>
    -- the substitute EF BF BD is itself a sequence (the standard encoding of U+FFFD)
    have sub : Seq8 0xFFFD badcharSubstituteUtf8 := seq8_enc (by decide)
    rw [cleanupUtf8_bad hn, validateUtf8_seq sub]; exact ih

theorem cleanup_of_valid (xs : List Nat) : validateUtf8 xs = 0 → cleanupUtf8 xs = xs := by
  induction xs using seq8_induction with
  | nil => exact fun _ => rfl
  | seq r hs ih => intro hv; rw [validateUtf8_seq hs] at hv; rw [cleanupUtf8_seq hs, ih hv]
  | bad hn _ => exact fun hv => absurd hv (validateUtf8_bad hn)

theorem stringSet_of_valid (m : Mode) {xs : List Nat} (hlen : xs.length < hugeBufferSize) (hv : validateUtf8 xs = 0) :
    stringSetUtf8 m (some xs) = .ok xs := by
  cases m with
  | assumeValid => exact stringSet_assume hlen
  | checkValidity => rw [stringSet_check hlen, if_pos hv]
  | substituteInvalid => rw [stringSet_subst hlen, cleanup_of_valid xs hv]

theorem cleanup_bytes (xs : List Nat) : Bytes xs → Bytes (cleanupUtf8 xs) := by
  induction xs using seq8_induction with
  | nil => exact id
  | seq r hs ih =>
    intro hb
    have hb := UnitsLt_append.1 hb
    rw [cleanupUtf8_seq hs]; exact UnitsLt_append.2 ⟨hb.1, ih hb.2⟩
  | bad hn ih =>
    intro hb
    rw [cleanupUtf8_bad hn]; exact UnitsLt_append.2 ⟨by decide, ih (Bytes_cons.1 hb).2⟩

end StVerif.Lemmas.Utf
