/-
  The string-level do-blocks of `Model/StrPool.lean`, composed from the lemmas of the buffer members
  (`Lemmas/PoolOps.lean`, read through `Outcome.cases`) under an ARBITRARY fault schedule (`Pool.failAt` is
  whatever it is).

  One statement per block, named `<block>_f` (`f`: under any fault schedule).  `Ends (block p) p T Q C`: the block
  completes, having changed only the objects in `T`, with `Q` of the final state; or an exception reaches the caller
  after the temporaries alive at that point were destroyed — `unicode_error`, raised by the block itself under the
  condition `C`, or `bad_alloc` when a fault is scheduled — and then *everything* is unchanged (`ThrowUnch`).  The exceptions to the last point are copy
  assignment (`setBufCopy`: the target may be left empty) and `deriveAll` (results already built stay).
  Most blocks store one value in one target: `Sets (block p) p o x` is `Ends` with "`o` holds `v`" when `x = some v`
  and the condition `x = none`, where `x` is computed from the operands' values (`setRes`, `convRes`, `Utf.writeUtf8`).

  Two lemmas carry all the unwinding: `scope_f` (a temporary is created, a body runs with the temporary alive, the
  temporary is destroyed on every exit: `init; withTemp t body`) and `ctorThen_f` (a constructor body after the
  member was default-constructed); `Sets.assignVia` is their recurring instance "build the value in a temporary, move
  it into the target".  Last, that a scheduled fault really fires (`fresh_throws`, `appendStr_throws`).
-/
import StVerif.Model.Sched
import StVerif.Lemmas.PoolStep
import StVerif.Lemmas.Utf

namespace StVerif.Sched

def mk (us : List Nat) : Option View := some (us.length, us)

def unitsOf : Option View → List Nat
  | some (_, us) => us
  | none => []

theorem mk_nil : mk [] = some (0, []) := rfl

end StVerif.Sched

namespace StVerif.StrPool
open StVerif.Pool

variable {p p1 : Pool} {o t d : Nat} {C : Prop} {vb : List Nat}

def isTemp (x : Nat) : Prop := x = tmpA ∨ x = tmpB ∨ x = tmpC ∨ x = tmpD

theorem isTemp_A : isTemp tmpA := Or.inl rfl
theorem isTemp_B : isTemp tmpB := Or.inr (Or.inl rfl)
theorem isTemp_C : isTemp tmpC := Or.inr (Or.inr (Or.inl rfl))
theorem isTemp_D : isTemp tmpD := Or.inr (Or.inr (Or.inr rfl))

/-- true between any two operations of a history -/
def TempsDead (p : Pool) : Prop := ∀ x, isTemp x → p.objs x = none

def alive (p : Pool) (o : Nat) : Prop := ∃ b, p.objs o = some b

theorem alive_of_view {w : Nat × List Nat} (h : view p o = some w) : alive p o :=
  objs_some_of_view h

theorem alive_of_view_eq {p' : Pool} {x y : Nat} (h : view p' x = view p y) (hy : alive p y) : alive p' x := by
  obtain ⟨b, hb⟩ := hy
  rw [view_of_objs hb] at h
  exact alive_of_view h

theorem alive_of_objs_eq {p' : Pool} {x : Nat} (h : p'.objs x = p.objs x) (hx : alive p x) : alive p' x := by
  obtain ⟨b, hb⟩ := hx
  exact ⟨b, by rw [h]; exact hb⟩

theorem view_eq_mk (hI : Inv p) (ho : alive p o) : view p o = Sched.mk (Sched.unitsOf (view p o)) := by
  obtain ⟨b, hb⟩ := ho
  rw [view_of_objs hb, Sched.unitsOf, Sched.mk, hI.units_length hb]

theorem read_units {p : Pool} (hI : Inv p) {o : Nat} {b : Buf} (ho : p.objs o = some b) :
    readUnits b.chars b.size p = .ok (units p b) p := by
  rcases hI.storage ho with ⟨hs, hc, _, hlen⟩ | ⟨_, k, blk, hc, hblk, hlen, _⟩
  · rw [hc, readUnits_loc ho (hlen.symm ▸ Nat.le_of_lt hs), units_short ho hc]
  · rw [hc, readUnits_heap hblk (hlen.symm ▸ Nat.le_succ _), units_long hc hblk]

@[simp] theorem throwE_apply {α : Type} (e : Exc) (p : Pool) : (throwE e : M α) p = .throw e p := rfl

theorem tmpA_ne_tmpB : tmpA ≠ tmpB := by decide
theorem tmpA_ne_tmpC : tmpA ≠ tmpC := by decide
theorem tmpD_ne_tmpA : tmpD ≠ tmpA := by decide
theorem tmpD_ne_tmpB : tmpD ≠ tmpB := by decide
theorem tmpD_ne_tmpC : tmpD ≠ tmpC := by decide

def ThrowUnch (r : Res Unit) (p : Pool) (C : Prop) : Prop :=
  ∃ e p', r = .throw e p' ∧ Succ p p' (fun _ => False) ∧ (C ∧ e = .unicodeError ∨ e = .badAlloc ∧ p.failAt ≠ none)

def Ends (r : Res Unit) (p : Pool) (T : Nat → Prop) (Q : Pool → Prop) (C : Prop) : Prop :=
  (∃ p', r = .ok () p' ∧ Succ p p' T ∧ Q p') ∨ ThrowUnch r p C

def BadUnch (r : Res Unit) (p : Pool) : Prop :=
  ∃ p', r = .throw .badAlloc p' ∧ p.failAt ≠ none ∧ Succ p p' (fun _ => False)

theorem ThrowUnch.badUnch {r : Res Unit} (h : ThrowUnch r p C) (hC : ¬ C) : BadUnch r p := by
  obtain ⟨e, p', h1, s1, x1⟩ := h
  obtain ⟨rfl, f1⟩ := x1.resolve_left (hC ·.1)
  exact ⟨p', h1, f1, s1⟩

/-- an exception on its way out of the scope of the live temporary (or member under construction) `t`: at most `t` has
    changed and it is still alive — the scope is about to destroy it -/
def ThrowIn (r : Res Unit) (p1 : Pool) (t : Nat) (C : Prop) : Prop :=
  ∃ e p2, r = .throw e p2 ∧ Succ p1 p2 (· = t) ∧ alive p2 t ∧ (C ∧ e = .unicodeError ∨ e = .badAlloc ∧ p1.failAt ≠ none)

theorem ThrowIn.badAlloc {r : Res Unit} {p2 : Pool} (h : r = .throw .badAlloc p2)
    (f : p1.failAt ≠ none) (s : Succ p1 p2 (· = t)) (a : alive p2 t) : ThrowIn r p1 t C :=
  ⟨_, p2, h, s, a, Or.inr ⟨rfl, f⟩⟩

theorem ThrowUnch.inScope {r : Res Unit} (h : ThrowUnch r p1 C) (a1 : alive p1 t) : ThrowIn r p1 t C := by
  obtain ⟨e, p2, h1, s1, x1⟩ := h
  exact ⟨e, p2, h1, s1.mono (fun _ h => h.elim), alive_of_objs_eq (s1.objs t (fun h => h)) a1, x1⟩

theorem throwUnch_refl {r : Res Unit} (hI : Inv p) (h : r = .throw .unicodeError p) (hc : C) : ThrowUnch r p C :=
  ⟨_, p, h, Succ.refl' hI _, Or.inl ⟨hc, rfl⟩⟩

theorem ThrowUnch.mono {r : Res Unit} {C' : Prop} (h : ThrowUnch r p C) (hC : C → C') : ThrowUnch r p C' := by
  obtain ⟨e, p', h1, s1, x1⟩ := h
  exact ⟨e, p', h1, s1, x1.imp_left (·.imp_left hC)⟩

theorem Ends.mono {r : Res Unit} {T : Nat → Prop} {Q Q' : Pool → Prop} {C' : Prop} (h : Ends r p T Q C)
    (hQ : ∀ p', Q p' → Q' p') (hC : C → C') : Ends r p T Q' C' :=
  h.imp (by rintro ⟨p', h1, s1, q1⟩; exact ⟨p', h1, s1, hQ p' q1⟩) (·.mono hC)

def Sets (r : Res Unit) (p : Pool) (o : Nat) (x : Option (List Nat)) : Prop :=
  Ends r p (· = o) (fun p' => ∃ v, x = some v ∧ view p' o = Sched.mk v) (x = none)

theorem withTemp_ok {α : Type} {body : M α} {p₁ p₂ : Pool} {a : α} (h₁ : body p = .ok a p₁) (h₂ : dtor t p₁ = .ok () p₂) :
    withTemp t body p = .ok a p₂ := by
  simp [withTemp, h₁, h₂]

theorem withTemp_throw {α : Type} {body : M α} {p₁ p₂ : Pool} {e : Exc}
    (h₁ : body p = .throw e p₁) (h₂ : dtor t p₁ = .ok () p₂) : withTemp t body p = .throw e p₂ := by
  simp [withTemp, h₁, h₂]

theorem ctorThen_ok {body : M Unit} {p2 : Pool} (h1 : ctorDefault o p = .ok () p1) (h2 : body p1 = .ok () p2) :
    ctorThen o body p = .ok () p2 := by
  simp [ctorThen, h1, h2]

theorem ctorThen_throw {body : M Unit} {p2 p3 : Pool} {e : Exc} (h1 : ctorDefault o p = .ok () p1)
    (h2 : body p1 = .throw e p2) (h3 : dtor o p2 = .ok () p3) : ctorThen o body p = .throw e p3 := by
  simp [ctorThen, h1, h2, h3]

theorem unwind {p p2 : Pool} {T : Nat → Prop} {t : Nat} (s : Succ p p2 T) (ht : p.objs t = none) (ha : alive p2 t) :
    ∃ p3, dtor t p2 = .ok () p3 ∧ Succ p p3 (fun x => T x ∧ x ≠ t) ∧ Succ p2 p3 (· = t) := by
  obtain ⟨b, hb⟩ := ha
  obtain ⟨p3, h1, s3, d3⟩ := dtor_spec s.inv hb
  refine ⟨p3, h1, ?_, s3⟩
  have s13 : Succ p p3 (fun x => T x ∨ x = t) := Succ.trans' s s3 (fun x h => Or.inl h) (fun x h => Or.inr h)
  refine s13.shrink_dead fun x hx hnx => ?_
  have hxt : x = t := Decidable.byContradiction fun h => hnx ⟨hx.resolve_right h, h⟩
  subst hxt
  exact ⟨ht, view_eq_none.1 d3⟩

/-- What `body` establishes has to survive the destruction of `t`. -/
theorem scope_f {init body : M Unit} {T : Nat → Prop} {Q₁ Q : Pool → Prop}
    (ht : p.objs t = none) (hinit : Ends (init p) p (· = t) Q₁ C)
    (hbody : ∀ p1, Succ p p1 (· = t) → Q₁ p1 →
      (∃ p2, body p1 = .ok () p2 ∧ Succ p1 p2 (fun x => T x ∨ x = t) ∧ alive p2 t ∧ ∀ p3, Succ p2 p3 (· = t) → Q p3) ∨
      ThrowIn (body p1) p1 t C) :
    Ends ((init >>= fun _ => withTemp t body) p) p T Q C := by
  rcases hinit with ⟨p1, h1, s1, q1⟩ | ⟨e, p1, h1, s1, x1⟩
  · rcases hbody p1 s1 q1 with ⟨p2, h2, s2, a2, q2⟩ | ⟨e, p2, h2, s2, a2, x2⟩
    · have s12 : Succ p p2 (fun x => T x ∨ x = t) := Succ.trans' s1 s2 (fun _ => Or.inr) (fun _ h => h)
      obtain ⟨p3, h3, s3, s23⟩ := unwind s12 ht a2
      refine Or.inl ⟨p3, ?_, s3.mono (fun x h => h.1.resolve_right h.2), q2 p3 s23⟩
      simp only [bind_apply, h1]; exact withTemp_ok h2 h3
    · obtain ⟨p3, h3, s3, _⟩ := unwind (s1.trans s2) ht a2
      refine Or.inr ⟨e, p3, ?_, s3.mono (fun x h => h.2 h.1), x2.imp_right fun h => ⟨h.1, s1.failAt ▸ h.2⟩⟩
      simp only [bind_apply, h1]; exact withTemp_throw h2 h3
  · exact Or.inr ⟨e, p1, by simp only [bind_apply, h1], s1, x1⟩

theorem ctorThen_f {body : M Unit} {T : Nat → Prop} {Q : Pool → Prop} (hI : Inv p) (ho : p.objs o = none) (hoT : T o)
    (hbody : ∀ p1, Succ p p1 (· = o) → view p1 o = some (0, []) →
      (∃ p2, body p1 = .ok () p2 ∧ Succ p1 p2 T ∧ Q p2) ∨ ThrowIn (body p1) p1 o C) :
    Ends (ctorThen o body p) p T Q C := by
  obtain ⟨p1, h1, s1, v1⟩ := ctorDefault_spec hI ho
  rcases hbody p1 s1 v1 with ⟨p2, h2, s2, q2⟩ | ⟨e, p2, h2, s2, a2, x2⟩
  · exact Or.inl ⟨p2, ctorThen_ok h1 h2, Succ.trans' s1 s2 (fun x h => h ▸ hoT) (fun x h => h), q2⟩
  · obtain ⟨p3, h3, s3, _⟩ := unwind (s1.trans s2) ho a2
    exact Or.inr ⟨e, p3, ctorThen_throw h1 h2 h3, s3.mono (fun x h => h.2 h.1), x2.imp_right fun h => ⟨h.1, s1.failAt ▸ h.2⟩⟩

theorem ctorDefault_f (hI : Inv p) (ho : p.objs o = none) :
    Ends (ctorDefault o p) p (· = o) (fun p' => view p' o = some (0, [])) C :=
  Or.inl (ctorDefault_spec hI ho)

theorem fresh_f (hI : Inv p) (hd : p.objs d = none) (val : List Nat) : Sets (fresh d val p) p d (some val) := by
  refine ctorThen_f hI hd rfl fun p1 s1 v1 => ?_
  obtain ⟨b1, hb1⟩ := alive_of_view v1
  rcases (allocate_spec s1.inv val.length hb1).cases with ⟨p2, h2, s2, us, hus, q2⟩ | ⟨p2, h2, f2, s2, q2⟩
  · obtain ⟨p3, h3, s3, q3⟩ := writeData_spec s2.inv (a := 0) (us := val) q2 (Nat.le_of_eq (Nat.zero_add _))
    exact Or.inl ⟨p3, by simp only [bind_apply, h2, h3], s2.trans s3, val, rfl, by rw [q3, overwrite_all hus, Sched.mk]⟩
  · exact Or.inr (.badAlloc (by simp only [bind_apply, h2]) f2 s2 (alive_of_view q2))

theorem cleanupInto_eq (hI : Inv p) {b n : Nat} (hb : view p b = some (n, vb)) :
    cleanupInto t b p = fresh t (Utf.cleanupUtf8 vb) p := by
  obtain ⟨bb, hbb, _, rfl⟩ := objs_of_view hb
  simp [cleanupInto, getObj_some hbb, read_units hI hbb]

/-- the body `assignMove o t` of a scope whose temporary `t` holds the value to be stored in the live object `o` -/
theorem moveTemp_f (hI : Inv p1) {w : Nat × List Nat} (ho : alive p1 o) (ht : view p1 t = some w) (hot : o ≠ t) :
    ∃ p2, assignMove o t p1 = .ok () p2 ∧ Succ p1 p2 (fun x => x = o ∨ x = t) ∧ alive p2 t ∧
      ∀ p3, Succ p2 p3 (· = t) → view p3 o = some w := by
  obtain ⟨bo, hbo⟩ := ho
  obtain ⟨bt, hbt⟩ := alive_of_view ht
  obtain ⟨p2, h2, s2, v2, w2⟩ := assignMove_spec hI hbo hbt
  exact ⟨p2, h2, s2, alive_of_view_eq w2 ⟨bo, hbo⟩, fun p3 s3 => by rw [s3.view o hot, v2, ht]⟩

theorem Sets.assignVia {init : M Unit} {x : Option (List Nat)} (h : Sets (init p) p t x) (ho : alive p o)
    (ht : p.objs t = none) (hot : o ≠ t) : Sets ((init >>= fun _ => withTemp t (assignMove o t)) p) p o x :=
  scope_f ht h <| by
    rintro _ s1 ⟨v, hx, v1⟩
    obtain ⟨p2, h2, s2, a2, w2⟩ := moveTemp_f s1.inv (alive_of_objs_eq (s1.objs o hot) ho) v1 hot
    exact Or.inl ⟨p2, h2, s2, a2, fun p3 s3 => ⟨v, hx, w2 p3 s3⟩⟩

theorem validateObj_eq (hI : Inv p) {b n : Nat} (hb : view p b = some (n, vb)) :
    validateObj b p = if Utf.validateUtf8 vb ≠ 0 then .throw .unicodeError p else .ok () p := by
  obtain ⟨ob, hob, _, rfl⟩ := objs_of_view hb
  simp only [validateObj, bind_apply, getObj_some hob, read_units hI hob]
  split <;> rfl

/-- what a `set` of the text `us` stores under each validation mode; `none`: it throws `unicode_error` -/
def setRes : Mode → List Nat → Option (List Nat)
  | .checkValidity, us => if Utf.validateUtf8 us = 0 then some us else none
  | .substituteInvalid, us => some (Utf.cleanupUtf8 us)
  | .assumeValid, us => some us

/-- the repair path shared by both `set(char_buffer)` overloads -/
theorem setSubst_f (hI : Inv p) {b : Nat} (ho : alive p o) (hb : view p b = Sched.mk vb)
    (hC : p.objs tmpC = none) (hoC : o ≠ tmpC) :
    Sets ((cleanupInto tmpC b >>= fun _ => withTemp tmpC (assignMove o tmpC)) p) p o (some (Utf.cleanupUtf8 vb)) := by
  have e : (cleanupInto tmpC b >>= fun _ => withTemp tmpC (assignMove o tmpC)) p =
      (fresh tmpC (Utf.cleanupUtf8 vb) >>= fun _ => withTemp tmpC (assignMove o tmpC)) p := by
    simp only [bind_apply, cleanupInto_eq hI hb]
  rw [e]
  exact (fresh_f hI hC _).assignVia ho hC hoC

/-- `set(char_buffer &&init, validation)` with `init` = object `b` -/
theorem setBufMove_f (hI : Inv p) {b : Nat} (ho : alive p o) (hb : view p b = Sched.mk vb)
    (hC : p.objs tmpC = none) (hoC : o ≠ tmpC) (m : Mode) :
    Ends (setBufMove o b m p) p (fun x => x = o ∨ x = b)
      (fun p' => ∃ v, setRes m vb = some v ∧ view p' o = Sched.mk v ∧
        (b ≠ o → view p' b = if m = .substituteInvalid then view p b else view p o))
      (setRes m vb = none) := by
  have mv : ∃ p', assignMove o b p = .ok () p' ∧ Succ p p' (fun x => x = o ∨ x = b) ∧
      view p' o = Sched.mk vb ∧ view p' b = view p o := by
    obtain ⟨bo, hbo⟩ := ho
    obtain ⟨bb, hbb⟩ := alive_of_view hb
    obtain ⟨p', h1, s1, v1, w1⟩ := assignMove_spec hI hbo hbb
    exact ⟨p', h1, s1, v1.trans hb, w1⟩
  cases m with
  | assumeValid =>
    obtain ⟨p', h1, s1, v1, w1⟩ := mv
    exact Or.inl ⟨p', h1, s1, vb, rfl, v1, fun _ => w1⟩
  | checkValidity =>
    by_cases hv : Utf.validateUtf8 vb = 0
    · obtain ⟨p', h1, s1, v1, w1⟩ := mv
      exact Or.inl ⟨p', by simp [setBufMove, validateObj_eq hI hb, hv, h1], s1, vb, if_pos hv, v1, fun _ => w1⟩
    · exact Or.inr (throwUnch_refl hI (by simp [setBufMove, validateObj_eq hI hb, hv]) (if_neg hv))
  | substituteInvalid =>
    rcases setSubst_f hI ho hb hC hoC with ⟨p', h1, s1, v, hv, v1⟩ | h
    · exact Or.inl ⟨p', h1, s1.mono (fun x h => Or.inl h), v, hv, v1, fun hbo => s1.view b hbo⟩
    · exact Or.inr h

def BadTarget (r : Res Unit) (p : Pool) (o : Nat) : Prop :=
  ∃ p', r = .throw .badAlloc p' ∧ p.failAt ≠ none ∧ Succ p p' (· = o) ∧ (view p' o = view p o ∨ view p' o = some (0, []))

/-- `set(const char_buffer &init, validation)` with `init` = object `b` -/
theorem setBufCopy_f (hI : Inv p) {b : Nat} (ho : alive p o) (hb : view p b = Sched.mk vb)
    (hC : p.objs tmpC = none) (hoC : o ≠ tmpC) (m : Mode) :
    Sets (setBufCopy o b m p) p o (setRes m vb) ∨ BadTarget (setBufCopy o b m p) p o := by
  have cp : (∃ p', assignCopy o b p = .ok () p' ∧ Succ p p' (· = o) ∧ view p' o = Sched.mk vb) ∨
      BadTarget (assignCopy o b p) p o := by
    obtain ⟨bo, hbo⟩ := ho
    obtain ⟨bb, hbb⟩ := alive_of_view hb
    rcases (assignCopy_spec hI hbo hbb).cases with ⟨p', h1, s1, q1⟩ | ⟨p', h1, f1, s1, q1⟩
    · exact Or.inl ⟨p', h1, s1, q1.trans hb⟩
    · exact Or.inr ⟨p', h1, f1, s1, q1⟩
  cases m with
  | assumeValid =>
    rcases cp with ⟨p', h1, s1, v1⟩ | h
    · exact Or.inl (Or.inl ⟨p', h1, s1, vb, rfl, v1⟩)
    · exact Or.inr h
  | checkValidity =>
    by_cases hv : Utf.validateUtf8 vb = 0
    · rcases cp with ⟨p', h1, s1, v1⟩ | ⟨p', h1, rest⟩
      · exact Or.inl (Or.inl ⟨p', by simp [setBufCopy, validateObj_eq hI hb, hv, h1], s1, vb, if_pos hv, v1⟩)
      · exact Or.inr ⟨p', by simp [setBufCopy, validateObj_eq hI hb, hv, h1], rest⟩
    · exact Or.inl (Or.inr (throwUnch_refl hI (by simp [setBufCopy, validateObj_eq hI hb, hv]) (if_neg hv)))
  | substituteInvalid => exact Or.inl (setSubst_f hI ho hb hC hoC)

theorem setUtf8_f (hI : Inv p) (ho : alive p o) (hA : p.objs tmpA = none) (hC : p.objs tmpC = none)
    (hoA : o ≠ tmpA) (hoC : o ≠ tmpC) (us : List Nat) (m : Mode) : Sets (setUtf8 o us m p) p o (setRes m us) := by
  refine scope_f (init := ctorUnits tmpA us) (body := setBufMove o tmpA m) (Q₁ := fun p1 => view p1 tmpA = Sched.mk us)
    hA ?_ fun p1 s1 v1 => ?_
  · rcases (ctorUnits_spec hI hA us).cases with h | ⟨p1, h1, f1, s1, q1⟩
    · exact Or.inl h
    · exact Or.inr ⟨_, p1, h1, s1.shrink_dead (fun x hx _ => hx ▸ ⟨hA, view_eq_none.mp q1⟩), Or.inr ⟨rfl, f1⟩⟩
  · have ho1 : alive p1 o := alive_of_objs_eq (s1.objs o hoA) ho
    have hC1 : p1.objs tmpC = none := (s1.objs tmpC tmpA_ne_tmpC.symm).trans hC
    rcases setBufMove_f s1.inv ho1 v1 hC1 hoC m with ⟨p2, h2, s2, v, hv, v2, w2⟩ | h
    · refine Or.inl ⟨p2, h2, s2, ?_, fun p3 s3 => ⟨v, hv, by rw [s3.view o hoA]; exact v2⟩⟩
      have w := w2 hoA.symm
      split at w
      · exact alive_of_view_eq w (alive_of_view v1)
      · exact alive_of_view_eq w ho1
    · exact Or.inr (h.inScope (alive_of_view v1))

/-- `ST::string(const char *, size, validation)` into the dead id `o` -/
theorem ctorText_f (hI : Inv p) (ho : p.objs o = none) (hA : p.objs tmpA = none) (hC : p.objs tmpC = none)
    (hoA : o ≠ tmpA) (hoC : o ≠ tmpC) (us : List Nat) (m : Mode) : Sets (ctorText o us m p) p o (setRes m us) := by
  refine ctorThen_f hI ho rfl fun p1 s1 v1 => ?_
  have hA1 : p1.objs tmpA = none := (s1.objs tmpA hoA.symm).trans hA
  have hC1 : p1.objs tmpC = none := (s1.objs tmpC hoC.symm).trans hC
  exact (setUtf8_f s1.inv (alive_of_view v1) hA1 hC1 hoA hoC us m).imp_right (·.inScope (alive_of_view v1))

/-- `ST::string(char_buffer &&init, validation)` into the dead id `o` -/
theorem ctorBufMove_f (hI : Inv p) {b : Nat} (ho : p.objs o = none) (hb : view p b = Sched.mk vb)
    (hC : p.objs tmpC = none) (hoC : o ≠ tmpC) (m : Mode) :
    Ends (ctorBufMove o b m p) p (fun x => x = o ∨ x = b)
      (fun p' => ∃ v, setRes m vb = some v ∧ view p' o = Sched.mk v ∧
        view p' b = if m = .substituteInvalid then view p b else some (0, []))
      (setRes m vb = none) := by
  have hbo : b ≠ o := fun h => by rw [h, view_eq_none.mpr ho] at hb; cases hb
  refine ctorThen_f hI ho (Or.inl rfl) fun p1 s1 v1 => ?_
  have hb1 : view p1 b = Sched.mk vb := (s1.view b hbo).trans hb
  have hC1 : p1.objs tmpC = none := (s1.objs tmpC hoC.symm).trans hC
  rcases setBufMove_f s1.inv (alive_of_view v1) hb1 hC1 hoC m with ⟨p2, h2, s2, v, hv, v2, w2⟩ | h
  · exact Or.inl ⟨p2, h2, s2, v, hv, v2, by rw [w2 hbo, s1.view b hbo, v1]⟩
  · exact Or.inr (h.inScope (alive_of_view v1))

/-- `ST::string(const char_buffer &init, validation)` into the dead id `o` -/
theorem ctorBufCopy_f (hI : Inv p) {b : Nat} (ho : p.objs o = none) (hb : view p b = Sched.mk vb)
    (hC : p.objs tmpC = none) (hoC : o ≠ tmpC) (m : Mode) : Sets (ctorBufCopy o b m p) p o (setRes m vb) := by
  have hbo : b ≠ o := fun h => by rw [h, view_eq_none.mpr ho] at hb; cases hb
  refine ctorThen_f hI ho rfl fun p1 s1 v1 => ?_
  have hb1 : view p1 b = Sched.mk vb := (s1.view b hbo).trans hb
  have hC1 : p1.objs tmpC = none := (s1.objs tmpC hoC.symm).trans hC
  rcases setBufCopy_f s1.inv (alive_of_view v1) hb1 hC1 hoC m with h | ⟨p2, h2, f2, s2, w2⟩
  · exact h.imp_right (·.inScope (alive_of_view v1))
  · -- the member under construction was left empty by the failed copy: it is destroyed like any other
    exact Or.inr (.badAlloc h2 f2 s2 (w2.elim (alive_of_view_eq · (alive_of_view v1)) alive_of_view))

theorem concatInto_eq (hI : Inv p) {l r nl nr : Nat} {vl vr : List Nat} (hl : view p l = some (nl, vl))
    (hr : view p r = some (nr, vr)) :
    concatInto d l r p = (fresh tmpA (vl ++ vr) >>= fun _ => withTemp tmpA (ctorMove d tmpA)) p := by
  obtain ⟨bl, hbl, _, rfl⟩ := objs_of_view hl
  obtain ⟨br, hbr, _, rfl⟩ := objs_of_view hr
  simp only [concatInto, bind_apply, getObj_some hbl, getObj_some hbr, read_units hI hbl, read_units hI hbr]

/-- `operator+(const string&, const string&)` into the dead id `d`; `l` and `r` may be the same object -/
theorem concatInto_f (hI : Inv p) {l r : Nat} {vl vr : List Nat} (hd : p.objs d = none) (hl : view p l = Sched.mk vl)
    (hr : view p r = Sched.mk vr) (hA : p.objs tmpA = none) (hdA : d ≠ tmpA) :
    Sets (concatInto d l r p) p d (some (vl ++ vr)) := by
  rw [concatInto_eq hI hl hr]
  refine scope_f hA (fresh_f hI hA _) ?_
  rintro p1 s1 ⟨v, hx, v1⟩
  have hd1 : p1.objs d = none := (s1.objs d hdA).trans hd
  obtain ⟨b1, hb1⟩ := alive_of_view v1
  obtain ⟨p2, h2, s2, v2, w2⟩ := ctorMove_spec s1.inv hd1 hb1
  exact Or.inl ⟨p2, h2, s2, alive_of_view w2, fun p3 s3 => ⟨v, hx, by rw [s3.view d hdA, v2, v1]⟩⟩

/-- `o += s` (`s` may be `o` itself) -/
theorem appendStr_f (hI : Inv p) {s : Nat} {vo vs : List Nat} (ho : view p o = Sched.mk vo) (hs : view p s = Sched.mk vs)
    (hA : p.objs tmpA = none) (hB : p.objs tmpB = none) (hoB : o ≠ tmpB) : Sets (appendStr o s p) p o (some (vo ++ vs)) :=
  (concatInto_f hI hB ho hs hA tmpA_ne_tmpB.symm).assignVia (alive_of_view ho) hB hoB

/-- `o += cstr` -/
theorem appendText_f (hI : Inv p) {vo : List Nat} (ho : view p o = Sched.mk vo) (hT : TempsDead p)
    (hoT : ¬ isTemp o) (us : List Nat) (m : Mode) : Sets (appendText o us m p) p o ((setRes m us).map (vo ++ ·)) := by
  have hoB : o ≠ tmpB := fun h => hoT (Or.inr (Or.inl h))
  have hoD : o ≠ tmpD := fun h => hoT (Or.inr (Or.inr (Or.inr h)))
  have dA := hT tmpA isTemp_A
  have dB := hT tmpB isTemp_B
  have dC := hT tmpC isTemp_C
  have dD := hT tmpD isTemp_D
  have e : appendText o us m = (ctorText tmpD us m >>= fun _ => withTemp tmpD (appendStr o tmpD)) := rfl
  rw [e]
  refine scope_f dD ((ctorText_f hI dD dA dC tmpD_ne_tmpA tmpD_ne_tmpC us m).mono (fun _ q => q) (congrArg _)) ?_
  rintro p1 s1 ⟨v, hx, v1⟩
  have aD : alive p1 tmpD := alive_of_view v1
  have hA1 : p1.objs tmpA = none := (s1.objs tmpA tmpD_ne_tmpA.symm).trans dA
  have hB1 : p1.objs tmpB = none := (s1.objs tmpB tmpD_ne_tmpB.symm).trans dB
  have ho1 : view p1 o = Sched.mk vo := (s1.view o hoD).trans ho
  rcases appendStr_f s1.inv ho1 v1 hA1 hB1 hoB with ⟨p2, h2, s2, w, hw, v2⟩ | h
  · cases hw
    exact Or.inl ⟨p2, h2, s2.mono (fun x h => Or.inl h), alive_of_objs_eq (s2.objs tmpD hoD.symm) aD,
      fun p3 s3 => ⟨vo ++ v, congrArg (Option.map (vo ++ ·)) hx, by rw [s3.view o hoD, v2]⟩⟩
  · exact Or.inr ((h.mono nofun).inScope aD)

/-- the statements of `operator+(const string&, char32_t)` that run with the concatenation buffer `tmpA` alive -/
def concatCharBody (d : Nat) (la : List Nat) (ch : Nat) : M Unit := do
  allocate tmpA (la.length + Utf.utf8Measure ch)
  writeData tmpA 0 la
  match Utf.writeUtf8 ch with
  | some bytes => do writeData tmpA la.length bytes; ctorMove d tmpA
  | none => throwE .unicodeError

theorem concatCharBody_f (hI : Inv p1) (a1 : alive p1 tmpA) (hd : p1.objs d = none) (la : List Nat) (ch : Nat) :
    (∃ p2, concatCharBody d la ch p1 = .ok () p2 ∧ Succ p1 p2 (fun x => x = d ∨ x = tmpA) ∧ alive p2 tmpA ∧
      ∃ v, (Utf.writeUtf8 ch).map (la ++ ·) = some v ∧ view p2 d = Sched.mk v) ∨
    ThrowIn (concatCharBody d la ch p1) p1 tmpA ((Utf.writeUtf8 ch).map (la ++ ·) = none) := by
  obtain ⟨b1, hb1⟩ := a1
  have hdA : d ≠ tmpA := fun h => by rw [h, hb1] at hd; cases hd
  rcases (allocate_spec hI (la.length + Utf.utf8Measure ch) hb1).cases with ⟨p2, h2, s2, us2, hus2, q2⟩ | ⟨p2, h2, f2, s2, q2⟩
  · obtain ⟨p3, h3, s3, q3⟩ := writeData_spec s2.inv (a := 0) (us := la) q2 (Nat.zero_add _ ▸ Nat.le_add_right _ _)
    cases hw : Utf.writeUtf8 ch with
    | some bytes =>
      have hbl : bytes.length = Utf.utf8Measure ch := Lemmas.Utf.writeUtf8_length hw
      obtain ⟨p4, h4, s4, q4⟩ := writeData_spec s3.inv (a := la.length) (us := bytes) q3 (hbl ▸ Nat.le_refl _)
      have hd4 : p4.objs d = none := ((s4.objs d hdA).trans ((s3.objs d hdA).trans (s2.objs d hdA))).trans hd
      obtain ⟨b4, hb4⟩ := alive_of_view q4
      obtain ⟨p5, h5, s5, v5, w5⟩ := ctorMove_spec s4.inv hd4 hb4
      refine Or.inl ⟨p5, by simp [concatCharBody, h2, h3, hw, h4, h5], ?_, alive_of_view w5, la ++ bytes, rfl, ?_⟩
      · exact Succ.trans' (((s2.trans s3).trans s4).mono (fun x h => Or.inr h)) s5 (fun x h => h) (fun x h => h)
      · rw [v5, q4, overwrite_fill, List.drop_of_length_le (hbl ▸ Nat.le_of_eq hus2), List.append_nil, Sched.mk,
          List.length_append, hbl]
    | none =>
      exact Or.inr ⟨.unicodeError, p3, by simp [concatCharBody, h2, h3, hw], s2.trans s3, alive_of_view q3, Or.inl ⟨rfl, rfl⟩⟩
  · exact Or.inr (.badAlloc (by simp [concatCharBody, h2]) f2 s2 (alive_of_view q2))

/-- `operator+(const string&, char32_t)` into the dead id `d` -/
theorem concatCharInto_f (hI : Inv p) {l : Nat} {vl : List Nat} (hd : p.objs d = none) (hl : view p l = Sched.mk vl)
    (hA : p.objs tmpA = none) (hdA : d ≠ tmpA) (ch : Nat) :
    Sets (concatCharInto d l ch p) p d ((Utf.writeUtf8 ch).map (vl ++ ·)) := by
  have e : concatCharInto d l ch p = (ctorDefault tmpA >>= fun _ => withTemp tmpA (concatCharBody d vl ch)) p := by
    obtain ⟨bl, hbl, _, rfl⟩ := objs_of_view hl
    simp only [concatCharInto, bind_apply, getObj_some hbl, read_units hI hbl]
    rfl
  rw [e]
  refine scope_f hA (ctorDefault_f hI hA) fun p1 s1 v1 => ?_
  have hd1 : p1.objs d = none := (s1.objs d hdA).trans hd
  refine (concatCharBody_f s1.inv (alive_of_view v1) hd1 vl ch).imp_left ?_
  rintro ⟨p2, h2, s2, a2, v, hv, v2⟩
  exact ⟨p2, h2, s2, a2, fun p3 s3 => ⟨v, hv, by rw [s3.view d hdA]; exact v2⟩⟩

/-- `o += ch` -/
theorem appendChar_f (hI : Inv p) {vo : List Nat} (ho : view p o = Sched.mk vo) (hA : p.objs tmpA = none)
    (hB : p.objs tmpB = none) (hoB : o ≠ tmpB) (ch : Nat) : Sets (appendChar o ch p) p o ((Utf.writeUtf8 ch).map (vo ++ ·)) :=
  (concatCharInto_f hI hB ho hA tmpA_ne_tmpB.symm ch).assignVia (alive_of_view ho) hB hoB

/-- a conversion (C01–C03) either yields a value or throws `unicode_error` before anything is touched -/
def ConvOk (c : Outcome (List Nat)) : Prop := (∃ v, c = .ok v) ∨ c = .throw .unicodeError

def convRes : Outcome (List Nat) → Option (List Nat)
  | .ok v => some v
  | _ => none

theorem setConverted_f (hI : Inv p) (ho : alive p o) (hA : p.objs tmpA = none) (hoA : o ≠ tmpA)
    {c : Outcome (List Nat)} (hc : ConvOk c) : Sets (setConverted o c p) p o (convRes c) := by
  rcases hc with ⟨v, rfl⟩ | rfl
  · exact (fresh_f hI hA v).assignVia ho hA hoA
  · exact Or.inr (throwUnch_refl hI rfl rfl)

/-- `o = ST::string(text in another encoding)` -/
theorem assignConverted_f (hI : Inv p) (ho : alive p o) (hA : p.objs tmpA = none) (hB : p.objs tmpB = none)
    (hoB : o ≠ tmpB) {c : Outcome (List Nat)} (hc : ConvOk c) : Sets (assignConverted o c p) p o (convRes c) := by
  refine scope_f (body := (do setConverted tmpB c; assignMove o tmpB)) hB (ctorDefault_f hI hB) fun p1 s1 v1 => ?_
  have a1 : alive p1 tmpB := alive_of_view v1
  have hA1 : p1.objs tmpA = none := (s1.objs tmpA tmpA_ne_tmpB).trans hA
  rcases setConverted_f s1.inv a1 hA1 tmpA_ne_tmpB.symm hc with ⟨p2, h2, s2, v, hv, v2⟩ | h
  · have ho2 : alive p2 o := alive_of_objs_eq (s2.objs o hoB) (alive_of_objs_eq (s1.objs o hoB) ho)
    obtain ⟨p3, h3, s3, a3, v3⟩ := moveTemp_f s2.inv ho2 v2 hoB
    exact Or.inl ⟨p3, by simp only [bind_apply, h2, h3], Succ.trans' s2 s3 (fun x h => Or.inr h) (fun x h => h), a3,
      fun p4 s4 => ⟨v, hv, v3 p4 s4⟩⟩
  · obtain ⟨e, p2, h2, rest⟩ := h.inScope a1
    exact Or.inr ⟨e, p2, by simp only [bind_apply, h2], rest⟩

/-- after `bad_alloc` the results built before stay: the caller constructs them one after the other -/
theorem deriveAll_f (hI : Inv p) (ds : List (Nat × List Nat)) (hdead : ∀ d ∈ ds.map (·.1), p.objs d = none)
    (hnd : (ds.map (·.1)).Nodup) :
    (∃ p', deriveAll ds p = .ok () p' ∧ Succ p p' (fun x => x ∈ ds.map (·.1)) ∧ ∀ dv ∈ ds, view p' dv.1 = Sched.mk dv.2) ∨
    (∃ p', deriveAll ds p = .throw .badAlloc p' ∧ p.failAt ≠ none ∧ Succ p p' (fun x => x ∈ ds.map (·.1))) := by
  induction ds generalizing p with
  | nil => exact Or.inl ⟨p, rfl, Succ.refl' hI _, fun _ h => nomatch h⟩
  | cons dv rest ih =>
    obtain ⟨d, v⟩ := dv
    simp only [List.map_cons, List.nodup_cons] at hnd
    have m1 : ∀ x, x = d → x ∈ ((d, v) :: rest).map (·.1) := fun x h => h ▸ List.mem_cons_self
    have m2 : ∀ x, x ∈ rest.map (·.1) → x ∈ ((d, v) :: rest).map (·.1) := fun x h => List.mem_cons_of_mem _ h
    rcases fresh_f hI (hdead d (m1 d rfl)) v with ⟨p1, h1, s1, w, hw, v1⟩ | h
    · cases hw
      have hdead1 : ∀ x ∈ rest.map (·.1), p1.objs x = none := by
        intro x hx
        rw [s1.objs x (by rintro rfl; exact hnd.1 hx)]
        exact hdead x (m2 x hx)
      rcases ih s1.inv hdead1 hnd.2 with ⟨p2, h2, s2, v2⟩ | ⟨p2, h2, f2, s2⟩
      · refine Or.inl ⟨p2, by simp [deriveAll, h1, h2], Succ.trans' s1 s2 m1 m2, fun dv hdv => ?_⟩
        rcases List.mem_cons.mp hdv with rfl | hdv
        · rw [s2.view d hnd.1]; exact v1
        · exact v2 dv hdv
      · exact Or.inr ⟨p2, by simp [deriveAll, h1, h2], by rw [← s1.failAt]; exact f2, Succ.trans' s1 s2 m1 m2⟩
    · obtain ⟨p1, h1, f1, s1⟩ := h.badUnch nofun
      exact Or.inr ⟨p1, by simp [deriveAll, h1], f1, s1.mono (fun _ h => h.elim)⟩

theorem fresh_throws (hI : Inv p) (hd : p.objs d = none) {val : List Nat} (hn : p.L ≤ val.length)
    (hf : p.failAt = some (p.allocs + 1)) : BadUnch (fresh d val p) p := by
  rcases fresh_f hI hd val with ⟨p', h, _⟩ | h
  · exfalso
    obtain ⟨p1, h1, s1, v1⟩ := ctorDefault_spec hI hd
    have hal : p1.allocs = p.allocs := by
      simp only [ctorDefault, bind_apply, getP_apply, setObj_eq] at h1; cases h1; rfl
    obtain ⟨b1, hb1⟩ := alive_of_view v1
    obtain ⟨p2, h2⟩ := allocate_throws s1.inv hb1 (n := val.length) (by rw [s1.L]; exact hn)
      (by rw [s1.failAt, hal]; exact hf)
    simp only [fresh, ctorThen, bind_apply, h1, h2] at h
    split at h <;> cases h
  · exact h.badUnch nofun

theorem appendStr_throws {p : Pool} (hI : Inv p) {o s : Nat} {bo bs : Buf} (ho : p.objs o = some bo) (hs : p.objs s = some bs)
    (hA : p.objs tmpA = none) (hn : p.L ≤ (units p bo ++ units p bs).length) (hf : p.failAt = some (p.allocs + 1)) :
    BadUnch (appendStr o s p) p := by
  obtain ⟨p', h1, rest⟩ := fresh_throws hI hA hn hf
  exact ⟨p', by simp [appendStr, concatInto_eq hI (view_of_objs ho) (view_of_objs hs), h1], rest⟩

end StVerif.StrPool
