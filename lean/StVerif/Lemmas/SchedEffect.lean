/-
  The value-level specification of every string-level operation (`SOp`): what its targets report afterwards,
  and whether it throws, as a function of what its *operands* reported before.

  `effect vw op` is written without reference to the machine; `effect_congr` shows that it looks at nothing but the
  operands — the "reads only its operands" half of C20's frame statement.  That the machine does exactly that, and
  writes only its targets, is `Lemmas/StrPoolOps.lean: sop_run`.
-/
import StVerif.Lemmas.StrPool

namespace StVerif.Sched
open StVerif.StrPool

def store (o : Nat) : Option (List Nat) → Except Exc (List (Nat × Option View))
  | some v => .ok [(o, mk v)]
  | none => .error .unicodeError

/-- `store` for an operation that also leaves its second target `b` reporting `w` -/
def store₂ (o b : Nat) (w : Option View) : Option (List Nat) → Except Exc (List (Nat × Option View))
  | some v => .ok [(o, mk v), (b, w)]
  | none => .error .unicodeError

/-- targets and their new reports (`none` = destroyed) after a completed operation, or the exception -/
def effect (vw : Nat → Option View) : SOp → Except Exc (List (Nat × Option View))
  | .ctorText o us m | .setText o us m => store o (setRes m us)
  | .ctorDefault o | .clear o => .ok [(o, mk [])]
  | .ctorCopy o s | .assignCopy o s => .ok [(o, vw s)]
  | .ctorMove o s => .ok [(o, vw s), (s, mk [])]
  | .dtor o => .ok [(o, none)]
  | .assignMove o s => .ok [(o, vw s), (s, vw o)]
  | .appendStr o s => .ok [(o, mk (unitsOf (vw o) ++ unitsOf (vw s)))]
  | .appendText o us d => store o ((setRes d us).map (unitsOf (vw o) ++ ·))
  | .appendChar o ch => store o ((Utf.writeUtf8 ch).map (unitsOf (vw o) ++ ·))
  | .setConv o c | .assignConv o c => store o (convRes c)
  | .bufCtor us => .ok [(bufSlot, mk us)]
  | .setBufMove o m =>
    store₂ o bufSlot (if m = .substituteInvalid then vw bufSlot else vw o) (setRes m (unitsOf (vw bufSlot)))
  | .ctorBufMove o m =>
    store₂ o bufSlot (if m = .substituteInvalid then vw bufSlot else mk []) (setRes m (unitsOf (vw bufSlot)))
  | .setBufCopy o m | .ctorBufCopy o m => store o (setRes m (unitsOf (vw bufSlot)))
  | .derive ds => .ok (ds.map fun dv => (dv.1, mk dv.2))
  | .deriveThrow e => .error e
  | .query => .ok []

theorem effect_congr {vw vw' : Nat → Option View} (op : SOp)
    (h : ∀ x, x ∈ op.targets ∨ x ∈ op.reads → vw x = vw' x) : effect vw op = effect vw' op := by
  -- every `vw x` in `effect vw op` has `x` among the operands: rewritten by `h`, its side condition by the list lemmas
  cases op <;> simp only [effect, h, SOp.targets, SOp.reads, List.mem_cons, List.not_mem_nil, true_or, or_true, or_false]

theorem store_error_iff {o : Nat} {x : Option (List Nat)} : store o x = .error .unicodeError ↔ x = none := by
  cases x <;> simp [store]

theorem store_keys {o : Nat} {x : Option (List Nat)} {us : List (Nat × Option View)} (h : store o x = .ok us) :
    us.map (·.1) = [o] := by
  cases x <;> cases h
  rfl

theorem effect_keys {vw : Nat → Option View} {op : SOp} {us : List (Nat × Option View)} (h : effect vw op = .ok us) :
    us.map (·.1) = op.targets := by
  cases op
  case derive ds => cases h; exact List.map_map
  case deriveThrow => cases h
  case ctorText | setText | appendText | appendChar | setConv | assignConv | setBufCopy | ctorBufCopy => exact store_keys h
  case setBufMove | ctorBufMove => simp only [effect, store₂] at h; split at h <;> cases h <;> rfl
  all_goals cases h; rfl

end StVerif.Sched
